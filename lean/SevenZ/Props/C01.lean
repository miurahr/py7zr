/-
C01 — Content round trip (container bookkeeping between the caller's bytes and the codecs).
The codecs are parameters; these theorems cover what py7zr itself does to the bytes.
-/
import SevenZ.Lemmas.Aes
import SevenZ.Lemmas.Decode
import SevenZ.Lemmas.Utf16
import SevenZ.Lemmas.Session
import SevenZ.Lemmas.ImplSession
namespace SevenZ.C01
open SevenZ SevenZ.Impl

/-- writer side of 7zAES, every chunking: the cipher is fed the stream once, in order, in
    whole 16-byte blocks, zero-padded at the end, and the residue buffer ends empty -/
theorem aes_feed_eq_pad16 (xs : List Bytes) :
    let st := aesFlush (aesRun {} xs)
    st.fed.flatten = xs.flatten ++ List.replicate ((16 - xs.flatten.length % 16) % 16) 0 ∧
    (∀ c ∈ st.fed, c.length % 16 = 0) ∧ st.buf = [] :=
  SevenZ.aes_feed_eq_pad16 xs

/-- reader side of 7zAES: every chunking of the ciphertext into pieces of at least one block -/
theorem aes_decrypt_feed (xs : List Bytes) (hx : ∀ c ∈ xs, c.length ≥ 16) (htot : xs.flatten.length % 16 = 0) :
    let st := aesDecRun {} xs
    st.fed.flatten = xs.flatten ∧ (∀ c ∈ st.fed, c.length % 16 = 0) ∧ st.buf = [] :=
  SevenZ.aes_decrypt_feed xs hx htot

/-- chunked decoding loses nothing and duplicates nothing, for every decoder and every
    sequence of chunk limits -/
theorem decompress_concat {σ} (ch : Chain σ) (cfg : DecCfg) (ms : List Nat) (st : DecState σ) :
    (runCalls ch cfg st ms).1.flatten ++ (runCalls ch cfg st ms).2.2.live =
      st.live ++ (runCalls ch cfg st ms).2.1.flatten :=
  SevenZ.decompress_concat ch cfg ms st

/-- cutting a folder's output by the stored sub-stream sizes gives back the members -/
def splitBy : List Nat → Bytes → List Bytes
  | [], _ => []
  | n :: ns, bs => bs.take n :: splitBy ns (bs.drop n)

theorem split_substreams (members : List Bytes) :
    splitBy (members.map List.length) members.flatten = members := by
  induction members with
  | nil => rfl
  | cons m ms ih => simp [splitBy, List.take_left', List.drop_left', ih]

/-- member names of the quantifier survive the UTF-16 name table -/
theorem names_roundtrip (cs : List Nat) (hs : ∀ c ∈ cs, IsScalar c)
    (hlen : (cs.flatMap unitsOf).length < maxLength) (tail : Bytes) :
    readUtf16 (writeUtf16 cs ++ tail) = some (cs, tail) :=
  SevenZ.utf16_roundtrip cs hs hlen tail

/-- **Container round trip of a create session.**  For every list of write calls, every codec
    chain and every block size, an independent reader of the archive the session leaves
    (`C07.session_archive_conforms`: it finds exactly `expectedMembers ms`) lists exactly the
    written names in call order, and the (folder offset, size) it assigns to each data member
    cuts the folder's decoded output — which is the concatenation of the members' bytes whenever
    the codec chain inverts, the one hypothesis about the codecs — back into exactly the bytes
    written for that member.  No bound on the number of members, their sizes or the blocks. -/
theorem container_roundtrip (ms : List WMember) :
    (expectedMembers ms).map (·.file.name) = ms.map (fun m => some m.name) ∧
    (expectedMembers ms).filterMap (sliceOf (((dataMembers ms).map (fun m => m.blocks.flatten)).flatten)) =
      (dataMembers ms).map (fun m => m.blocks.flatten) :=
  expectedMembers_roundtrip ms

/-- the sizes and checksums stored for the members are those of the bytes (any chain, any blocks) -/
theorem stored_sizes_crcs {σ} (chain : List (StageSt σ)) (hne : chain ≠ []) (hfed : headFed chain = 0)
    (members : List (List Bytes)) :
    (compressAll ({ chain := chain } : Cmp σ) members).2 = members.map (fun m => (m.flatten.length, crc32 m.flatten)) :=
  (SevenZ.compressor_accounting chain hne hfed members).1

/-- **py7zr reads back what py7zr wrote** (create session, raw header).  For every list of write
    calls, every codec chain and coder list (within the reader's own limits: non-empty coder ids,
    names of at most 65535 UTF-16 units, tables below 2^63 bytes): the model of `Header._read`
    applied to the header the session wrote returns member records with exactly the written
    names in call order (a backslash in a name comes back as a slash: the reader's documented
    rewrite), flags, times and attribute words, one folder with one sub-stream per data
    member, and as digests the CRC-32 of each member's bytes. -/
theorem py7zr_reads_back_session {σ} (cfg : WConfig σ) (ms : List WMember) (H0 : Header) (hdr : Bytes) (pos : Nat)
    (wfc : WFConfig cfg) (wfm : WFMembers ms) (rs : ReadableSession cfg ms)
    (hout : (sessionCompress cfg ms).1.out.length < 2 ^ 64)
    (hus : ∀ us, unpacksizesOf cfg.methodsMap ((sessionCompress cfg ms).1.chain.map (·.fed)) = some us → ∀ v ∈ us, v < 2 ^ 64)
    (hH : sessionHeader cfg ms = some H0) (hW : writeHeaderRaw true H0 pos = some hdr) :
    ∃ H', readNextHeader hdr = .ok (.raw H') ∧
      H'.filesInfo = some { files := sessionReadBackFiles ms, emptyfiles := [] } ∧
      (∃ st sub, H'.mainStreams = some st ∧ st.substreams = some sub ∧
        sub.numUnpack = [(dataMembers ms).length] ∧
        (sub.digestsdefined.zip sub.digests).map (fun (d, c) => if d then some c else none) =
          (dataMembers ms).map (fun m => some (crc32 m.blocks.flatten))) :=
  impl_reads_session cfg ms H0 hdr pos wfc wfm rs hout hus hH hW

/-- ... and the cursor of `_real_get_contents`, run on those counts, sizes and digests, gives every
    member the folder, offset, size and digest of `expectedMembers ms` — whose slices are the
    members' bytes (`container_roundtrip`) -/
theorem py7zr_cursor_on_session (ms : List WMember) :
    Impl.assign (ms.map (·.emptystream)) [(dataMembers ms).length]
      ((dataMembers ms).map (fun m => m.blocks.flatten.length))
      ((dataMembers ms).map (fun m => some (crc32 m.blocks.flatten))) = some ((expectedMembers ms).map (·.stream)) :=
  cursor_on_session ms

example : (expectedMembers [{ name := [97], emptystream := false, blocks := [[1, 2], [3]] }, { name := [98], emptystream := true },
    { name := [99], emptystream := false, blocks := [[9]] }]).map (·.stream) =
    [some (0, 0, 3, some 1438416925), none, some (0, 3, 1, some 2883475241)] := by decide +kernel

example : (aesFlush (aesRun {} [[1, 2, 3], List.replicate 20 7, [9]])).fed.map List.length = [16, 16] := by decide +kernel
example : ∀ c ∈ [List.replicate 17 (1 : Nat), List.replicate 31 2], c.length ≥ 16 := by decide +kernel

end SevenZ.C01
