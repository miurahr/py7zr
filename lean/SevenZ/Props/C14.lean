/-
C14 — A crash while writing never leaves a file that opens with wrong contents: torn start headers, and the
verdict on every crash image of a create session and of an append session (raw and encoded header mode).
-/
import SevenZ.Lemmas.Crc32
import SevenZ.Lemmas.Crash
import SevenZ.Model.Crash
import SevenZ.Lemmas.AppendStep
namespace SevenZ.C14
open SevenZ SevenZ.Impl

/-- the placeholder written first cannot verify: every image whose first 32 bytes are still
    the placeholder — any crash before the final signature-header rewrite — is rejected -/
theorem skeleton_rejected (rest : Bytes) : startHeaderOk (skeleton ++ rest) = false := by
  rw [skeleton_parts, startHeaderOk_parts _ _ rest (leBytes_length _ _) (by decide)]
  decide +kernel

/-- the first eight bytes of the final signature header equal those of the placeholder, so a
    rewrite torn inside them changes nothing -/
theorem torn_in_magic_is_skeleton (final : Bytes) (hf : final.take 8 = skeleton.take 8) (k : Nat) (hk : k ≤ 8)
    (hlen : final.length = 32) :
    final.take k ++ skeleton.drop k = skeleton := by
  have h1 : final.take k = skeleton.take k := by
    have := congrArg (List.take k) hf
    simpa [List.take_take, Nat.min_eq_left hk] using this
  rw [h1, List.take_append_drop]

/-- a rewrite torn inside its last four bytes (the next-header CRC field): the 20 field bytes
    on disk differ from the final ones only inside a 4-byte window, so they do not verify
    against the already written start-header CRC unless they are the final bytes -/
theorem torn_tail_rejected (fields torn : Bytes) (pre mid1 mid2 : Bytes) (hf : fields = pre ++ mid1)
    (ht : torn = pre ++ mid2) (hlen : mid1.length = mid2.length) (h4 : mid1.length ≤ 4) (hne : mid1 ≠ mid2)
    (hb1 : IsBytes mid1) (hb2 : IsBytes mid2) : crc32 torn ≠ crc32 fields := by
  subst hf ht
  have := SevenZ.crc32_detects_burst pre [] mid2 mid1 hlen.symm (by omega) (fun e => hne e.symm) hb2 hb1 0
  simpa [crc32] using this

/-- **The commit write, torn.**  The file starts with a 32-byte start header `magic, version, C0, F0` (any CRC field,
    any field bytes: valid or not) and the final signature header is written over it, cut after `k` bytes.  The
    result is rejected by the first gate; or the old start header stands untouched; or the tear fell inside the CRC
    field and produced the CRC of the OLD field bytes (which then has the old field's top byte); or the write is
    complete; or the new field bytes collide under CRC-32 with a mix that keeps at least five old bytes. -/
theorem torn_start (C0 F0 rest : Bytes) (hC0 : C0.length = 4) (hF0 : F0.length = 20) (hbC : IsBytes C0) (hbF : IsBytes F0)
    (ofs size crc k : Nat) :
    let F := sigFields ofs size crc
    let img := applyWrite (magic ++ [0, 4] ++ C0 ++ F0 ++ rest) ⟨0, (sigHeaderBytes ofs size crc).take k⟩
    startHeaderOk img = false ∨
    img = magic ++ [0, 4] ++ C0 ++ F0 ++ rest ∨
    (img = magic ++ [0, 4] ++ leBytes (crc32 F0) 4 ++ F0 ++ rest ∧ (leBytes (crc32 F0) 4).drop 3 = C0.drop 3) ∨
    img = sigHeaderBytes ofs size crc ++ rest ∨
    ∃ j, j < 16 ∧ F.take j ++ F0.drop j ≠ F ∧ crc32 (F.take j ++ F0.drop j) = crc32 F := by
  intro F img
  have hsig := sig_length ofs size crc
  have hA : (magic ++ [0, 4]).length = 8 := by decide
  have hF : F.length = 20 := sigFields_length _ _ _
  have hold : (magic ++ [0, 4] ++ C0 ++ F0).length = 32 := by rw [List.length_append, List.length_append, hA, hC0, hF0]
  by_cases hk : 32 ≤ k
  · right; right; right; left
    simp only [img]
    rw [applyWrite_zero, List.take_of_length_le (by omega), hsig, List.drop_left' hold]
  · have hk' : k ≤ 32 := by omega
    have e : img = ((sigHeaderBytes ofs size crc).take k ++ (magic ++ [0, 4] ++ C0 ++ F0).drop k) ++ rest := by
      simp only [img]
      rw [applyWrite_zero, List.length_take, hsig, Nat.min_eq_left hk', List.drop_append_of_le_length (by omega)]
      exact (List.append_assoc _ _ _).symm
    rw [e, sig_parts]
    rcases torn_sig_cases (magic ++ [0, 4]) (leBytes (crc32 F) 4) C0 F F0 hA (leBytes_length _ _) hC0 hF hF0 k hk' with
      h | ⟨j, hj0, hj4, h⟩ | ⟨j, hj, h⟩
    · right; left; rw [h]
    · -- the tear is inside the CRC field: the field bytes are the old ones
      rw [h]
      have hl := length_take_append_drop (leBytes (crc32 F) 4) C0 j (leBytes_length _ _) hC0 (Nat.le_of_lt hj4)
      cases hok : startHeaderOk (magic ++ [0, 4] ++ ((leBytes (crc32 F) 4).take j ++ C0.drop j) ++ F0 ++ rest) with
      | false => exact Or.inl rfl
      | true =>
        right; right; left
        have hmix := (startHeaderOk_iff _ F0 rest hl hF0
          (isBytes_append (isBytes_take (leBytes_isBytes _ _) _) (isBytes_drop hbC _))).1 hok
        rw [hmix]
        exact ⟨rfl, hmix ▸ drop_take_append_drop _ C0 j 3 (Nat.le_of_lt_succ hj4)
          (by rw [leBytes_length]; exact Nat.le_of_lt hj4)⟩
    · -- the tear is inside the 20 field bytes; the CRC field is already the final one
      rw [h]
      have hl := length_take_append_drop F F0 j hF hF0 hj
      by_cases heq : F.take j ++ F0.drop j = F
      · right; right; right; left; rw [heq]
      · by_cases hc : crc32 (F.take j ++ F0.drop j) = crc32 F
        · right; right; right; right
          refine ⟨j, Nat.lt_of_not_le fun hj16 => ?_, heq, hc⟩
          -- at most four old bytes are left: a burst, which CRC-32 detects
          refine torn_tail_rejected F _ (F.take j) (F.drop j) (F0.drop j) (List.take_append_drop _ _).symm rfl
            (by rw [List.length_drop, List.length_drop, hF, hF0]) (by rw [List.length_drop, hF]; omega) (fun hd => heq ?_)
            (isBytes_drop (sigFields_isBytes _ _ _) _) (isBytes_drop hbF _) hc
          rw [← hd, List.take_append_drop]
        · left
          rw [startHeaderOk_parts _ _ _ (leBytes_length _ _) hl, ofLE_leBytes_lt _ 4 (crc32_lt F)]
          exact beq_false_of_ne hc

/-- a commit write torn inside its 20 field bytes `F` over older ones `F0`, such that the mix (which keeps at least five old bytes)
    has the CRC-32 of `F`: the one residual case of `torn_start` -/
def TornOver (F0 F : Bytes) : Prop :=
  ∃ j, j < 16 ∧ F.take j ++ F0.drop j ≠ F ∧ crc32 (F.take j ++ F0.drop j) = crc32 F

/-- what the quoted verdicts keep of it: some string collides with `F` -/
theorem TornOver.collision {F0 F : Bytes} {n : Nat} (h : TornOver F0 F) (h0 : F0.length = n) (hF : F.length = n) (hn : 16 ≤ n) :
    ∃ a : Bytes, a.length = F.length ∧ a ≠ F ∧ crc32 a = crc32 F :=
  let ⟨j, hj, h1, h2⟩ := h
  ⟨_, (length_take_append_drop _ _ j hF h0 (by omega)).trans hF.symm, h1, h2⟩

/-- **What a crash can leave of a create session.** Whatever the members, the codecs and the header mode (they only
    determine `body`, the bytes written from offset 32 on, and the three numbers in the signature header), and
    wherever the write sequence is cut (`n` complete operations and `k` bytes of the next), the image
    * is rejected by the reader's first gate (magic + start-header CRC), or
    * is byte for byte the completed archive, or
    * exhibits a CRC-32 collision between the final 20 field bytes and those same bytes with a suffix of at least
      five bytes still holding the placeholder -- the one residual case, a 2^-32 coincidence of the header's
      offset/size/CRC values, which no reader could tell from a completed rewrite by the start header alone. -/
theorem create_crash_verdict (ofs size crc : Nat) (body : Bytes) (n k : Nat) :
    startHeaderOk (crashImage [] (createOps (sigHeaderBytes ofs size crc) body) n k) = false ∨
    crashImage [] (createOps (sigHeaderBytes ofs size crc) body) n k = sigHeaderBytes ofs size crc ++ body ∨
    ∃ j, j < 16 ∧ (sigFields ofs size crc).take j ++ phFields.drop j ≠ sigFields ofs size crc ∧
      crc32 ((sigFields ofs size crc).take j ++ phFields.drop j) = crc32 (sigFields ofs size crc) := by
  have hs : skeleton.length = 32 := by decide
  have e1 : applyWrite [] ⟨0, skeleton⟩ = skeleton := by simp [applyWrite_zero]
  have e2 : ∀ t, applyWrite skeleton ⟨32, t⟩ = skeleton ++ t := fun t => hs ▸ applyWrite_end skeleton t
  unfold createOps
  match n with
  | 0 =>
    left
    rw [crashImage_cons_zero, applyWrite_zero, List.drop_nil, List.append_nil]
    by_cases hk : k < 32
    · exact startHeaderOk_short (by rw [List.length_take, hs]; omega)
    · rw [List.take_of_length_le (by omega)]
      simpa using skeleton_rejected []
  | 1 =>
    left
    rw [crashImage_cons_succ, crashImage_cons_zero, e1, e2]
    exact skeleton_rejected _
  | 2 =>
    rw [crashImage_cons_succ, crashImage_cons_succ, crashImage_cons_zero, e1, e2, skeleton_parts]
    rcases torn_start (leBytes 1 4) phFields body (leBytes_length _ _) (by decide) (leBytes_isBytes _ _)
      (sigFields_isBytes 2 3 4) ofs size crc k
      with h | h | ⟨_, h⟩ | h | h
    · exact Or.inl h
    · left; rw [h, ← skeleton_parts]; exact skeleton_rejected _
    · -- the placeholder's CRC field has top byte 0, the CRC of its field bytes has not
      exact absurd h (by decide +kernel)
    · exact Or.inr (Or.inl h)
    · exact Or.inr (Or.inr h)
  | n + 3 =>
    right; left
    rw [crashImage_cons_succ, crashImage_cons_succ, crashImage_cons_succ, crashImage_nil, e1, e2, applyWrite_zero,
      sig_length, List.drop_left' hs]

/-- the writes of a create session (raw header mode) have the create shape, and replaying all of them gives the
    archive `sessionArchive` describes -/
theorem sessionOps_shape {σ} (cfg : WConfig σ) (ms : List WMember) (ops : List WriteOp)
    (h : sessionOps cfg ms = some ops) :
    ∃ ofs size crc body, ops = createOps (sigHeaderBytes ofs size crc) body ∧
      sessionArchive cfg ms = some (sigHeaderBytes ofs size crc ++ body) := by
  unfold sessionOps at h
  unfold sessionArchive
  cases hh : sessionHeader cfg ms with
  | none => simp [hh, bind, Option.bind] at h
  | some H =>
    simp only [hh, bind, Option.bind] at h ⊢
    cases hw : writeHeaderRaw true H (32 + (sessionCompress cfg ms).1.out.length) with
    | none => simp [hw] at h
    | some hdr =>
      simp only [hw, pure, Option.some.injEq] at h ⊢
      exact ⟨_, _, _, _, h.symm, by simp [List.append_assoc]⟩

/-- the same for the default (encoded) header mode -/
theorem sessionOpsEncoded_shape {σ} (cfg : WConfig σ) (hcfg : HConfig σ) (ms : List WMember) (ops : List WriteOp)
    (h : sessionOpsEncoded cfg hcfg ms = some ops) :
    ∃ ofs size crc body, ops = createOps (sigHeaderBytes ofs size crc) body ∧
      sessionArchiveEncoded cfg hcfg ms = some (sigHeaderBytes ofs size crc ++ body) := by
  unfold sessionOpsEncoded at h
  unfold sessionArchiveEncoded
  cases hh : sessionHeader cfg ms with
  | none => simp [hh, bind, Option.bind] at h
  | some H =>
    simp only [hh, bind, Option.bind] at h ⊢
    cases he : encodeHeader H hcfg (sessionCompress cfg ms).1.out.length with
    | none => simp [he] at h
    | some pr =>
      obtain ⟨packedHdr, record⟩ := pr
      simp only [he, pure, Option.some.injEq] at h ⊢
      exact ⟨_, _, _, _, h.symm, by simp [List.append_assoc]⟩

/-- the verdict of `create_crash_verdict` for any operation list of the create shape whose replay is `img`; the three numbers
    of the residual case are the ones the archive's signature header carries -/
theorem create_shape_verdict (ops : List WriteOp) (img : Bytes) (arch : Option Bytes) (ha : arch = some img)
    (hshape : ∃ ofs size crc body, ops = createOps (sigHeaderBytes ofs size crc) body ∧
      arch = some (sigHeaderBytes ofs size crc ++ body)) (n k : Nat) :
    ∃ ofs size crc body, img = sigHeaderBytes ofs size crc ++ body ∧
      (startHeaderOk (crashImage [] ops n k) = false ∨ crashImage [] ops n k = img ∨
       TornOver phFields (sigFields ofs size crc)) := by
  obtain ⟨ofs, size, crc, body, rfl, ha'⟩ := hshape
  cases ha.symm.trans ha'
  exact ⟨ofs, size, crc, body, rfl, create_crash_verdict ofs size crc body n k⟩

/-- **C14 for create sessions, raw and encoded header mode alike.** For every member list, codec chain and
    configuration, every crash point of the session's write sequence leaves an image that the first gate rejects, or
    the finished archive exactly, or the CRC-32 coincidence described at `create_crash_verdict`. -/
theorem session_crash_verdict {σ} (cfg : WConfig σ) (ms : List WMember) (ops : List WriteOp) (img : Bytes)
    (h : sessionOps cfg ms = some ops) (ha : sessionArchive cfg ms = some img) (n k : Nat) :
    startHeaderOk (crashImage [] ops n k) = false ∨ crashImage [] ops n k = img ∨
    ∃ ofs size crc j, j < 16 ∧ (sigFields ofs size crc).take j ++ phFields.drop j ≠ sigFields ofs size crc ∧
      crc32 ((sigFields ofs size crc).take j ++ phFields.drop j) = crc32 (sigFields ofs size crc) :=
  -- as quoted, the verdict forgets whose three numbers they are
  (create_shape_verdict ops img _ ha (sessionOps_shape cfg ms ops h) n k).elim fun ofs ⟨size, crc, _, _, v⟩ =>
    v.imp_right (Or.imp_right fun ⟨j, hj⟩ => ⟨ofs, size, crc, j, hj⟩)

theorem session_encoded_crash_verdict {σ} (cfg : WConfig σ) (hcfg : HConfig σ) (ms : List WMember)
    (ops : List WriteOp) (img : Bytes)
    (h : sessionOpsEncoded cfg hcfg ms = some ops) (ha : sessionArchiveEncoded cfg hcfg ms = some img) (n k : Nat) :
    startHeaderOk (crashImage [] ops n k) = false ∨ crashImage [] ops n k = img ∨
    ∃ ofs size crc j, j < 16 ∧ (sigFields ofs size crc).take j ++ phFields.drop j ≠ sigFields ofs size crc ∧
      crc32 ((sigFields ofs size crc).take j ++ phFields.drop j) = crc32 (sigFields ofs size crc) :=
  (create_shape_verdict ops img _ ha (sessionOpsEncoded_shape cfg hcfg ms ops h) n k).elim fun ofs ⟨size, crc, _, _, v⟩ =>
    v.imp_right (Or.imp_right fun ⟨j, hj⟩ => ⟨ofs, size, crc, j, hj⟩)

/-- `append_crash_general` below with its residual case named: the tear fell inside the 20 field bytes, and the mix of new
    bytes and (at least five) old ones has the CRC-32 of the new ones. (As a bare "some string collides with the new field
    bytes" that case would hold of every image: CRC-32 is affine, every 20-byte string has a partner.) -/
theorem append_crash_torn (pre X tail : Bytes) (o s c : Nat) (ofs size crc : Nat) (n k : Nat)
    (ho : o < 2 ^ 64) (hs : s < 2 ^ 64) (hc : c < 2 ^ 32) :
    let sigOld := sigHeaderBytes o s c
    let base := sigOld ++ pre ++ X
    let ops := appendOps (32 + pre.length) (sigHeaderBytes ofs size crc) tail
    let img := crashImage base ops n k
    headerGate img = none ∨
    (headerGate img = some (((img.drop 32).drop o).take s) ∧ crc32 (((img.drop 32).drop o).take s) = c ∧
      img.take (32 + pre.length) = base.take (32 + pre.length)) ∨
    img = applyAll base ops ∨
    TornOver (sigFields o s c) (sigFields ofs size crc) := by
  intro sigOld base ops img
  have hso : sigOld.length = 32 := sig_length _ _ _
  have hP : (sigOld ++ pre).length = 32 + pre.length := by rw [List.length_append, hso]
  have hover : ∀ t, applyWrite base ⟨32 + pre.length, t⟩ = sigOld ++ pre ++ (t ++ X.drop t.length) := by
    intro t; rw [← hP]; exact applyWrite_over _ _ _
  -- an image that still carries the old signature header
  have hold : ∀ Y, let im := sigOld ++ pre ++ Y
      headerGate im = none ∨ (headerGate im = some (((im.drop 32).drop o).take s) ∧ crc32 (((im.drop 32).drop o).take s) = c ∧
        im.take (32 + pre.length) = base.take (32 + pre.length)) := by
    intro Y im
    have hg := headerGate_sig o s c (pre ++ Y) ho hs hc
    rw [← List.append_assoc] at hg
    rw [show im.drop 32 = pre ++ Y by simp only [im]; rw [List.append_assoc, List.drop_left' hso]]
    by_cases hcrc : crc32 (((pre ++ Y).drop o).take s) = c
    · right
      rw [hg, if_pos hcrc]
      refine ⟨rfl, hcrc, ?_⟩
      show (sigOld ++ pre ++ Y).take (32 + pre.length) = (sigOld ++ pre ++ X).take (32 + pre.length)
      rw [← hP, List.take_left' rfl, List.take_left' rfl]
    · left; rw [hg, if_neg hcrc]
  have hfinal : applyAll base ops = sigHeaderBytes ofs size crc ++ (pre ++ (tail ++ X.drop tail.length)) := by
    simp only [ops, appendOps, applyAll_cons]
    rw [hover tail, applyWrite_zero, sig_length, List.append_assoc, List.drop_left' hso]; rfl
  simp only [img, ops, appendOps] at hfinal ⊢
  match n with
  | 0 =>
    rw [crashImage_cons_zero, hover]
    exact (hold _).elim Or.inl (fun h => Or.inr (Or.inl h))
  | 1 =>
    rw [crashImage_cons_succ, crashImage_cons_zero, hover, hfinal]
    have hsoP : sigOld = magic ++ [0, 4] ++ leBytes (crc32 (sigFields o s c)) 4 ++ sigFields o s c := sig_parts _ _ _
    have himg : sigOld ++ pre ++ (tail ++ X.drop tail.length) =
        magic ++ [0, 4] ++ leBytes (crc32 (sigFields o s c)) 4 ++ sigFields o s c ++ (pre ++ (tail ++ X.drop tail.length)) := by
      rw [← hsoP, List.append_assoc]
    rcases torn_start _ (sigFields o s c) (pre ++ (tail ++ X.drop tail.length)) (leBytes_length _ _) (sigFields_length _ _ _)
      (leBytes_isBytes _ _) (sigFields_isBytes _ _ _) ofs size crc k with h | h | ⟨h, _⟩ | h | h
    · left; rw [himg]; exact headerGate_none_of_start _ h
    · rw [himg, h, ← himg]; exact (hold _).elim Or.inl (fun h => Or.inr (Or.inl h))
    · -- a tear in the CRC field that verifies gives the OLD header back: its CRC field already held `crc32` of the old fields
      rw [himg, h, ← himg]; exact (hold _).elim Or.inl (fun h => Or.inr (Or.inl h))
    · right; right; left; rw [himg, h]
    · exact .inr (.inr (.inr h))
  | n + 2 =>
    right; right; left
    rw [crashImage_cons_succ, crashImage_cons_succ, crashImage_nil]; rfl

/-- **The general form**: the old signature header points anywhere (`o`, `s`, `c`), the session writes from
    `32 + pre.length` on. Every crash image is rejected by the two gates, or still starts with the old signature
    header, has everything before the write position untouched and passes the gates with whatever now stands where
    the old header stood (which then has the old header's CRC), or is the finished file, or exhibits a CRC-32
    collision with the new field bytes. -/
theorem append_crash_general (pre X tail : Bytes) (o s c : Nat) (ofs size crc : Nat) (n k : Nat)
    (ho : o < 2 ^ 64) (hs : s < 2 ^ 64) (hc : c < 2 ^ 32) :
    let sigOld := sigHeaderBytes o s c
    let base := sigOld ++ pre ++ X
    let ops := appendOps (32 + pre.length) (sigHeaderBytes ofs size crc) tail
    let img := crashImage base ops n k
    headerGate img = none ∨
    (headerGate img = some (((img.drop 32).drop o).take s) ∧ crc32 (((img.drop 32).drop o).take s) = c ∧
      img.take (32 + pre.length) = base.take (32 + pre.length)) ∨
    img = applyAll base ops ∨
    ∃ a b : Bytes, a.length = b.length ∧ a ≠ b ∧ crc32 a = crc32 b ∧ b = sigFields ofs size crc :=
  (append_crash_torn pre X tail o s c ofs size crc n k ho hs hc).imp_right <| .imp_right <| .imp_right fun h =>
    let ⟨a, hl, hne, hc⟩ := h.collision (sigFields_length _ _ _) (sigFields_length _ _ _) (by decide)
    ⟨a, _, hl, hne, hc, rfl⟩

/-- An append over a base whose signature header points at an old header `H` (the header itself in raw mode, the
    EncodedHeader record in the default mode), with every residual case named: the gates pass with the region where `H` stood
    although it no longer holds `H`, which then collides with `H`; or the commit write tore as in `torn_start`. -/
theorem append_crash_named (pre X tail H : Bytes) (o ofs size crc n k : Nat) (ho : o < 2 ^ 64) (hs : H.length < 2 ^ 64)
    (hfit : o + H.length ≤ (pre ++ X).length) :
    let base := sigHeaderBytes o H.length (crc32 H) ++ pre ++ X
    let ops := appendOps (32 + pre.length) (sigHeaderBytes ofs size crc) tail
    let img := crashImage base ops n k
    let region := ((img.drop 32).drop o).take H.length
    headerGate img = none ∨
    (headerGate img = some H ∧ img.take (32 + pre.length) = base.take (32 + pre.length)) ∨
    img = applyAll base ops ∨
    (headerGate img = some region ∧ img.take (32 + pre.length) = base.take (32 + pre.length) ∧
      region.length = H.length ∧ region ≠ H ∧ crc32 region = crc32 H) ∨
    TornOver (sigFields o H.length (crc32 H)) (sigFields ofs size crc) := by
  intro base ops img region
  rcases append_crash_torn pre X tail o H.length (crc32 H) ofs size crc n k ho hs (crc32_lt _) with h | ⟨h1, h2, h3⟩ | h | h
  · exact .inl h
  · by_cases hreg : region = H
    · exact .inr (.inl ⟨hreg ▸ h1, h3⟩)
    · refine .inr (.inr (.inr (.inl ⟨h1, h3, ?_, hreg, h2⟩)))
      -- writes never shorten the file, so the region is as long as `H`
      have : base.length ≤ img.length := le_crashImage_length ops base n k
      simp only [base, List.length_append, sig_length] at this hfit
      simp only [region, List.length_take, List.length_drop]; omega
  · exact .inr (.inr (.inl h))
  · exact .inr (.inr (.inr (.inr h)))

/-- **What a crash can leave of an append session.** The base is any archive of the shape py7zr writes (signature
    header, packed streams `area`, header `hdrOld`, possibly bytes `junk` an earlier longer file left); the session
    writes `tail` (new packed data, then the new header) from the end of the old packed streams on -- over the old
    header -- and the new signature header last. Wherever the write sequence is cut, the image
    * is rejected by the reader's gates (start-header CRC, then header CRC), or
    * passes them with the OLD header bytes while everything before the old header is untouched: it reads as the
      archive before the session, or
    * is byte for byte the completed archive, or
    * exhibits a CRC-32 collision: between the old header and what overwrote it, or between the new signature
      header's 20 field bytes and a mix of new and old ones. -/
theorem append_crash_verdict (area hdrOld junk tail : Bytes) (ofs size crc : Nat) (n k : Nat)
    (ha : area.length < 2 ^ 64) (hh : hdrOld.length < 2 ^ 64) :
    let sigOld := sigHeaderBytes area.length hdrOld.length (crc32 hdrOld)
    let base := sigOld ++ area ++ (hdrOld ++ junk)
    let ops := appendOps (32 + area.length) (sigHeaderBytes ofs size crc) tail
    let img := crashImage base ops n k
    headerGate img = none ∨
    (headerGate img = some hdrOld ∧ img.take (32 + area.length) = base.take (32 + area.length)) ∨
    img = applyAll base ops ∨
    ∃ a b : Bytes, a.length = b.length ∧ a ≠ b ∧ crc32 a = crc32 b ∧ (b = hdrOld ∨ b = sigFields ofs size crc) := by
  intro sigOld base ops img
  rcases append_crash_named area (hdrOld ++ junk) tail hdrOld area.length ofs size crc n k ha hh
    (by simp only [List.length_append]; omega) with h | h | h | ⟨_, _, hl, hne, hc⟩ | h
  · exact .inl h
  · exact .inr (.inl h)
  · exact .inr (.inr (.inl h))
  · exact .inr (.inr (.inr ⟨_, hdrOld, hl, hne, hc, .inl rfl⟩))
  · obtain ⟨a, hl, hne, hc⟩ := h.collision (sigFields_length _ _ _) (sigFields_length _ _ _) (by decide)
    exact .inr (.inr (.inr ⟨a, _, hl, hne, hc, .inr rfl⟩))

/-- **C14 for an append session on a base in the DEFAULT (encoded) header mode.** The base is `signature header ++
    packed streams ++ packed header P ++ EncodedHeader record R ++ leftovers`; the session writes from the end of the
    packed streams on — over P first, R later. `dec` is whatever the header's coder chain decodes to. Every crash
    image is rejected at the signature-header or the record gate; or passes them with the OLD record while
    everything before the write position is untouched — and then the packed header the record points at is still
    `P`, or decodes to the same header, or fails the record's folder CRC (the gate added by cfa832b: without it this
    case opened with whatever the overwritten region decoded to), or collides with it under CRC-32; or is the
    finished file; or exhibits a CRC-32 collision of the record or of the new field bytes. -/
theorem append_crash_verdict_encoded (dec : Bytes → Bytes) (area P R junk tail : Bytes) (ofs size crc : Nat) (n k : Nat)
    (ha : area.length + P.length < 2 ^ 64) (hr : R.length < 2 ^ 64) :
    let sigOld := sigHeaderBytes (area.length + P.length) R.length (crc32 R)
    let base := sigOld ++ area ++ (P ++ R ++ junk)
    let ops := appendOps (32 + area.length) (sigHeaderBytes ofs size crc) tail
    let img := crashImage base ops n k
    let Q := (img.drop (32 + area.length)).take P.length
    headerGate img = none ∨
    (headerGate img = some R ∧ img.take (32 + area.length) = base.take (32 + area.length) ∧
      (Q = P ∨ dec Q = dec P ∨ crc32 (dec Q) ≠ crc32 (dec P) ∨ (dec Q ≠ dec P ∧ crc32 (dec Q) = crc32 (dec P)))) ∨
    img = applyAll base ops ∨
    ∃ a b : Bytes, a ≠ b ∧ crc32 a = crc32 b ∧ (b = R ∨ b = sigFields ofs size crc) := by
  intro sigOld base ops img Q
  rcases append_crash_named area (P ++ R ++ junk) tail R (area.length + P.length) ofs size crc n k ha hr
    (by simp only [List.length_append]; omega) with h | ⟨h1, h3⟩ | h | ⟨_, _, _, hne, hc⟩ | ⟨j, _, h1, h2⟩
  · exact .inl h
  · -- the inner clause is a case distinction, true of every `Q`
    refine .inr (.inl ⟨h1, h3, ?_⟩)
    by_cases hq : Q = P
    · exact .inl hq
    · by_cases hd : dec Q = dec P
      · exact .inr (.inl hd)
      · by_cases hc : crc32 (dec Q) = crc32 (dec P)
        · exact .inr (.inr (.inr ⟨hd, hc⟩))
        · exact .inr (.inr (.inl hc))
  · exact .inr (.inr (.inl h))
  · exact .inr (.inr (.inr ⟨_, R, hne, hc, .inl rfl⟩))
  · exact .inr (.inr (.inr ⟨_, _, h1, h2, .inr rfl⟩))

/-- the writes of an append session on an archive in a good state (any archive reachable by a create session and
    append sessions, `C08.Written`) have the append shape: they start at the end of the old packed streams -/
theorem append_ops_shape {σ} (s : ArchState) (good : s.Good) (cfg : WConfig σ) (ms : List WMember) (us : List Nat)
    (hms : ms ≠ [])
    (hU : unpacksizesOf cfg.methodsMap ((sessionCompress cfg ms).1.chain.map (·.fed)) = some us)
    (ops : List WriteOp) (h : appendSessionOps s.image cfg ms = some ops) :
    ∃ ofs size crc tail, ops = appendOps (32 + s.area.length) (sigHeaderBytes ofs size crc) tail := by
  obtain ⟨hH, hpos, happ⟩ := good.inv.appendSession s.hdr s.junk good.hw good.hh cfg ms us hU
  have hemp : ms.isEmpty = false := List.isEmpty_eq_false_iff.2 hms
  unfold appendSessionOps ArchState.image at h
  rw [hH] at h
  simp only [bind, Option.bind, hemp, Bool.false_eq_true, if_false, happ, Option.map_some, hpos] at h
  cases hW : writeHeaderRaw true (appendComps s.c cfg ms us).header (32 + s.area.length + (sessionCompress cfg ms).1.out.length) with
  | none => simp [hW] at h
  | some hdr' =>
    simp only [hW, pure, Option.some.injEq] at h
    exact ⟨_, _, _, _, h.symm⟩

/-- **C14 for append sessions on every archive py7zr can have written** (raw header mode): the verdict of
    `append_crash_verdict` with the state's own packed area and header. -/
theorem good_append_crash_verdict {σ} (s : ArchState) (good : s.Good) (cfg : WConfig σ) (ms : List WMember) (us : List Nat)
    (hms : ms ≠ [])
    (hU : unpacksizesOf cfg.methodsMap ((sessionCompress cfg ms).1.chain.map (·.fed)) = some us)
    (ops : List WriteOp) (h : appendSessionOps s.image cfg ms = some ops) (n k : Nat) :
    headerGate (crashImage s.image ops n k) = none ∨
    (headerGate (crashImage s.image ops n k) = some s.hdr ∧
      (crashImage s.image ops n k).take (32 + s.area.length) = s.image.take (32 + s.area.length)) ∨
    crashImage s.image ops n k = applyAll s.image ops ∨
    ∃ a b : Bytes, a.length = b.length ∧ a ≠ b ∧ crc32 a = crc32 b := by
  obtain ⟨ofs, size, crc, tail, rfl⟩ := append_ops_shape s good cfg ms us hms hU ops h
  have himg : s.image = sigHeaderBytes s.area.length s.hdr.length (crc32 s.hdr) ++ s.area ++ (s.hdr ++ s.junk) := by
    simp [ArchState.image, imageOf, List.append_assoc]
  rw [himg]
  rcases append_crash_verdict s.area s.hdr s.junk tail ofs size crc n k good.inv.areaBound good.hh with h1 | h2 | h3 | ⟨a, b, h4, h5, h6, _⟩
  · exact Or.inl h1
  · exact Or.inr (Or.inl h2)
  · exact Or.inr (Or.inr (Or.inl h3))
  · exact Or.inr (Or.inr (Or.inr ⟨a, b, h4, h5, h6⟩))

example : startHeaderOk skeleton = false := by decide +kernel
-- concrete crash points: a create session torn inside the CRC field, inside the fields, and complete
example : startHeaderOk (crashImage [] (createOps (sigHeaderBytes 5 2 77) [1, 2, 3, 4, 5, 1, 0]) 2 10) = false ∧
    startHeaderOk (crashImage [] (createOps (sigHeaderBytes 5 2 77) [1, 2, 3, 4, 5, 1, 0]) 2 21) = false ∧
    startHeaderOk (crashImage [] (createOps (sigHeaderBytes 5 2 77) [1, 2, 3, 4, 5, 1, 0]) 2 32) = true := by decide +kernel
-- an append cut inside the data write that has destroyed the old header: both gates, then rejection
example : headerGate (crashImage (sigHeaderBytes 2 2 (crc32 [1, 0]) ++ [9, 9] ++ ([1, 0] ++ []))
      (appendOps 34 (sigHeaderBytes 4 2 (crc32 [1, 0])) [8, 8, 1, 0]) 0 1) = none ∧
    headerGate (sigHeaderBytes 2 2 (crc32 [1, 0]) ++ [9, 9] ++ ([1, 0] ++ [])) = some [1, 0] := by decide +kernel
example : crashImage [] [⟨0, [1, 2, 3]⟩, ⟨5, [9, 9]⟩, ⟨1, [7]⟩] 2 0 = [1, 2, 3, 0, 0, 9, 9] ∧
    applyAll [] [⟨0, [1, 2, 3]⟩, ⟨5, [9, 9]⟩, ⟨1, [7]⟩] = [1, 7, 3, 0, 0, 9, 9] := by decide

end SevenZ.C14
