/-
C18 — Progress callbacks give a complete, well-ordered account.
-/
import SevenZ.Model.Progress
import SevenZ.Lemmas.Shuffle
namespace SevenZ.C18
open SevenZ SevenZ.Impl

/-- every event of a member concerns that member and no other -/
theorem about_memberEvents {m : PMember} {e : PEv} (he : e ∈ memberEvents m) (k : Nat) :
    about k e = decide (m.id = k) := by
  simp only [memberEvents, List.mem_append, List.mem_singleton] at he
  rcases he with (rfl | he) | rfl
  · rfl
  · split at he
    · obtain ⟨c, _, rfl⟩ := List.mem_map.1 he; rfl
    · cases he
  · rfl

theorem workerEvents_append (a b : List PMember) : workerEvents (a ++ b) = workerEvents a ++ workerEvents b :=
  List.flatMap_append

theorem workerEvents_cons (m : PMember) (ms : List PMember) : workerEvents (m :: ms) = memberEvents m ++ workerEvents ms :=
  List.flatMap_cons

theorem workerEvents_flatten (wss : List (List PMember)) : (wss.map workerEvents).flatten = workerEvents wss.flatten := by
  induction wss with
  | nil => rfl
  | cons w ws ih => rw [List.map_cons, List.flatten_cons, List.flatten_cons, ih]; exact List.flatMap_append.symm

theorem filter_about_worker_other (ms : List PMember) (k : Nat) (h : ∀ m ∈ ms, m.id ≠ k) :
    (workerEvents ms).filter (about k) = [] := by
  rw [List.filter_eq_nil_iff]
  intro e he
  obtain ⟨m, hm, hem⟩ := List.mem_flatMap.1 he
  rw [about_memberEvents hem, decide_eq_false (h m hm)]
  exact Bool.false_ne_true

/-- in a list with distinct keys, the key of one entry is that of no other -/
theorem ne_of_nodup_map {γ δ : Type} (f : γ → δ) {a b : List γ} {x y : γ} (h : ((a ++ x :: b).map f).Nodup)
    (hy : y ∈ a ++ b) : f y ≠ f x := by
  rw [List.map_append, List.map_cons, List.perm_middle.nodup_iff, List.nodup_cons, ← List.map_append] at h
  exact fun e => h.1 (e ▸ List.mem_map_of_mem hy)

/-- Per-member pairing under every interleaving.  Member ids pairwise distinct over the whole
    archive; `l` any interleaving of the workers' event lists.  Then the events concerning a
    member are, in this order: its one start, its updates, its one end carrying its size. -/
theorem member_events_well_ordered (pre post : List (List PMember)) (ms : List PMember) (l : List PEv)
    (h : Interleave ((pre ++ ms :: post).map workerEvents) l)
    (hnd : ((pre ++ ms :: post).flatten.map (·.id)).Nodup) (m : PMember) (hm : m ∈ ms) :
    (queued l).filter (about m.id) = memberEvents m := by
  obtain ⟨a, b, rfl⟩ := List.append_of_mem hm
  -- `m` sits between `pre.flatten ++ a` and `b ++ post.flatten`; nobody there shares its id
  have hne : ∀ y, (y ∈ pre.flatten ∨ y ∈ a) ∨ (y ∈ b ∨ y ∈ post.flatten) → y.id ≠ m.id := fun y hy =>
    ne_of_nodup_map (·.id) (a := pre.flatten ++ a) (b := b ++ post.flatten)
      (by simpa only [List.flatten_append, List.flatten_cons, List.append_assoc, List.cons_append] using hnd)
      (by simpa only [List.mem_append] using hy)
  have hother (ms' : List PMember) (hms' : ∀ y ∈ ms', (y ∈ pre.flatten ∨ y ∈ a) ∨ (y ∈ b ∨ y ∈ post.flatten)) :
      (workerEvents ms').filter (about m.id) = [] :=
    filter_about_worker_other ms' m.id fun y hy => hne y (hms' y hy)
  have hproj : l.filter (about m.id) = (workerEvents (a ++ m :: b)).filter (about m.id) := by
    rw [List.map_append, List.map_cons] at h
    simp only [filter_eq_flatMap] at hother ⊢
    refine h.flatMap_eq _ (fun v hv => ?_) (fun v hv => ?_) <;> obtain ⟨ms', hms', rfl⟩ := List.mem_map.1 hv
    · exact hother ms' fun y hy => .inl (.inl (List.mem_flatten.2 ⟨ms', hms', hy⟩))
    · exact hother ms' fun y hy => .inr (.inr (List.mem_flatten.2 ⟨ms', hms', hy⟩))
  have hself : (memberEvents m).filter (about m.id) = memberEvents m :=
    List.filter_eq_self.2 fun e he => by rw [about_memberEvents he, decide_eq_true rfl]
  show (PEv.pre :: (l ++ [PEv.post])).filter (about m.id) = _
  rw [List.filter_cons_of_neg (by simp [about]), List.filter_append, hproj, workerEvents_append, workerEvents_cons,
    List.filter_append, List.filter_append, hself, hother a fun y hy => .inl (.inr hy),
    hother b fun y hy => .inr (.inl hy)]
  simp [about]

/-- corollary: exactly one start and exactly one end per processed member, the end carrying the size -/
theorem one_start_one_end (pre post : List (List PMember)) (ms : List PMember) (l : List PEv)
    (h : Interleave ((pre ++ ms :: post).map workerEvents) l)
    (hnd : ((pre ++ ms :: post).flatten.map (·.id)).Nodup) (m : PMember) (hm : m ∈ ms) :
    (queued l).filter (isStartOf m.id) = [.start m.id] ∧ (queued l).filter (isFinishOf m.id) = [.finish m.id m.size] := by
  -- a start (an end) of `m` concerns `m`: filter the events about `m` first, they are `memberEvents m`
  have hsub (p : PEv → Bool) (hp : ∀ e, p e = true → about m.id e = true) :
      (queued l).filter p = (memberEvents m).filter p := by
    rw [← member_events_well_ordered pre post ms l h hnd m hm, List.filter_filter]
    refine List.filter_congr fun e _ => ?_
    cases hpe : p e with
    | false => rfl
    | true => rw [hp e hpe]; rfl
  rw [hsub (isStartOf m.id) (fun e he => by cases e with | start _ => exact he | _ => cases he),
    hsub (isFinishOf m.id) (fun e he => by cases e with | finish _ _ => exact he | _ => cases he)]
  unfold memberEvents
  split <;> simp [List.filter_map, Function.comp_def, isStartOf, isFinishOf]

/-- preparation first, post-processing last -/
theorem pre_first_post_last (l : List PEv) : (queued l).head? = some .pre ∧ (queued l).getLast? = some .post := by
  constructor
  · rfl
  · show (PEv.pre :: (l ++ [PEv.post])).getLast? = some PEv.post
    rw [← List.cons_append]
    exact List.getLast?_concat

theorem updBytes_memberEvents (m : PMember) : ((memberEvents m).map updBytes).sum = if m.delivered then m.chunks.sum else 0 := by
  unfold memberEvents
  split <;> simp [updBytes, Function.comp_def]

/-- the update events sum to the bytes decoded for delivered members, under every interleaving
    (given that each member's updates sum to its size — `updates_sum_decoded` below) -/
theorem updates_sum (wss : List (List PMember)) (l : List PEv) (h : Interleave (wss.map workerEvents) l)
    (hch : ∀ ms ∈ wss, ∀ m ∈ ms, m.delivered = true → m.chunks.sum = m.size) :
    ((queued l).map updBytes).sum = ((wss.flatten.filter (·.delivered)).map (·.size)).sum := by
  have h1 : ((queued l).map updBytes).sum = (l.map updBytes).sum := by
    simp [queued, updBytes]
  -- a sum does not see the interleaving: `l` is a permutation of all members' events
  rw [h1, (h.perm.map updBytes).sum_nat, workerEvents_flatten, workerEvents]
  have hch' : ∀ m ∈ wss.flatten, m.delivered = true → m.chunks.sum = m.size := fun m hm =>
    (List.mem_flatten.1 hm).elim fun ms hms => hch ms hms.1 m hms.2
  generalize wss.flatten = ms at hch'
  induction ms with
  | nil => rfl
  | cons m ms ih =>
    rw [List.flatMap_cons, List.map_append, List.sum_append, updBytes_memberEvents,
      ih fun m' hm' => hch' m' (List.mem_cons_of_mem _ hm'), List.filter_cons]
    split
    · rename_i hd; rw [List.map_cons, List.sum_cons, hch' m List.mem_cons_self hd]
    · rw [Nat.zero_add]

/-- `Worker.decompress` accounting: whatever iterations trigger a periodic update, the reported
    amounts add up to the bytes decoded (the counter is reset after each report) -/
theorem updates_sum_decoded (acc : Nat) (its : List (Nat × Bool)) (hne : its ≠ []) :
    (updatesGo acc its).sum = acc + (its.map (·.1)).sum := by
  induction its generalizing acc with
  | nil => exact absurd rfl hne
  | cons it rest ih =>
    obtain ⟨n, due⟩ := it
    cases rest with
    | nil => simp [updatesGo]
    | cons it2 rest2 =>
      unfold updatesGo
      split
      · simp only [List.sum_cons, List.map_cons]
        rw [ih 0 (by simp)]
        simp only [List.map_cons, List.sum_cons]; omega
      · rw [ih (acc + n) (by simp)]
        simp only [List.map_cons, List.sum_cons]; omega

theorem drain_sentinel (q : List PEv) (after : List (Option PEv)) : drain (q.map some ++ none :: after) = q := by
  induction q with
  | nil => rfl
  | cons e q ih => simp only [List.map_cons, List.cons_append, drain, ih]

/-- FIFO invariant under every interleaving of producers (enq) and the reporter (deq): what was
    delivered followed by what is pending is exactly what was enqueued, in enqueue order -/
theorem queue_invariant (ops : List QOp) :
    let s := ops.foldl qstep qinit
    s.delivered ++ s.pending = s.hist := by
  suffices h : ∀ s : QState, s.delivered ++ s.pending = s.hist →
      (ops.foldl qstep s).delivered ++ (ops.foldl qstep s).pending = (ops.foldl qstep s).hist from h qinit rfl
  induction ops with
  | nil => intro s hs; exact hs
  | cons op ops ih =>
    intro s hs
    apply ih
    cases op with
    | enq e => simp only [qstep]; rw [← List.append_assoc, hs]
    | deq =>
      simp only [qstep]
      split
      · exact hs
      · rename_i x r hp
        rw [hp] at hs
        simp only [List.append_assoc, List.singleton_append]; exact hs

/-- All events are delivered before close() returns (close waits for the reporter): whatever the
    interleaving so far, close leaves exactly the enqueue history delivered. -/
theorem close_delivers_all (ops : List QOp) :
    closeDelivers (ops.foldl qstep qinit) none = (ops.foldl qstep qinit).hist := by
  simp only [closeDelivers]
  exact queue_invariant ops

/-- The pinned `join(1)`: with a backlog larger than what the reporter manages within the
    time-out, close() gives up with events still undelivered (they arrive after close). -/
theorem close_timeout_ce :
    let s := [QOp.enq .pre, .enq (.start 0), .enq (.finish 0 5), .enq .post].foldl qstep qinit
    closeDelivers s (some 1) = [.pre] ∧ closeDelivers s none = [.pre, .start 0, .finish 0 5, .post] := by
  decide +kernel

example : updatesGo 0 [(100, false), (100, true), (50, false), (6, false)] = [200, 56] := by decide +kernel

end SevenZ.C18
