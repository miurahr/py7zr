/-
C11 — Encryption: nothing leaks, nothing is delivered without the right password
(bookkeeping and decision logic; the cipher itself is a parameter).
-/
import SevenZ.Lemmas.Aes
import SevenZ.Model.Crypto
import SevenZ.Lemmas.Utf16
namespace SevenZ.C11
open SevenZ SevenZ.Impl

/-- Everything a chain ending in 7zAES emits into the packed area is cipher output: the
    cipher is applied to the whole (zero-padded) stream, each byte exactly once, in 16-byte
    aligned calls, for every chunking of the input; nothing bypasses it or stays behind. -/
theorem all_content_through_aes (xs : List Bytes) :
    let st := aesFlush (aesRun {} xs)
    st.fed.flatten = xs.flatten ++ List.replicate ((16 - xs.flatten.length % 16) % 16) 0 ∧
    (∀ c ∈ st.fed, c.length % 16 = 0) ∧ st.buf = [] :=
  SevenZ.aes_feed_eq_pad16 xs

def runModes (m : HeaderMode) : List ModeOp → HeaderMode
  | [] => m
  | op :: ops => runModes (stepMode m op) ops

/-- header-mode machine: whatever sequence of set_encoded_header_mode / set_encrypted_header
    calls follows the constructor, an encrypted header is always an encoded one, and the
    AES filter is selected exactly when encryption is on -/
theorem header_mode_machine (flag : Bool) (ops : List ModeOp) :
    let m := runModes (initMode flag) ops
    (m.encrypted = true → m.encoded = true) ∧ (headerForm m = .encrypted ↔ m.encrypted = true) := by
  have inv : ∀ (ops : List ModeOp) (m : HeaderMode), (m.encrypted = true → m.encoded = true) →
      ((runModes m ops).encrypted = true → (runModes m ops).encoded = true) := by
    intro ops
    induction ops with
    | nil => intro m h; simpa [runModes] using h
    | cons op ops ih =>
      intro m h
      apply ih
      cases op with
      | setEncoded b => cases b <;> simp [stepMode]
      | setEncrypted b => cases b <;> simp [stepMode]
  refine ⟨inv ops (initMode flag) (by simp [initMode]), ?_⟩
  generalize runModes (initMode flag) ops = m
  unfold headerForm
  cases h : m.encrypted <;> cases h2 : m.encoded <;> simp

/-- the last call wins: after set_encrypted_header(True) the header is encrypted, after
    set_encoded_header_mode(False) it is raw -/
theorem last_setter_wins (m : HeaderMode) :
    headerForm (stepMode m (.setEncrypted true)) = .encrypted ∧
    headerForm (stepMode m (.setEncoded false)) = .raw := by
  simp [stepMode, headerForm]

/-- asking for an encoded header never withdraws a header encryption asked for earlier: after
    `set_encoded_header_mode(True)` the header is encrypted exactly if it was going to be before -/
theorem encoded_on_keeps_encryption (m : HeaderMode) :
    (headerForm (stepMode m (.setEncoded true)) = .encrypted ↔ m.encrypted = true) ∧
    (stepMode m (.setEncoded true)).encrypted = m.encrypted := by
  cases h : m.encrypted <;> simp [stepMode, headerForm, h]

/-- no password, no delivery: with an AES coder and no password the decoder is refused before
    a single byte is decoded -/
theorem no_password_no_delivery (coders : List Bytes) (h : aesId ∈ coders) :
    decoderGate coders none = .passwordRequired := by
  simp [decoderGate, h]

/-- wrong key: whatever garbage `g` a wrong key decrypts to, it is delivered in place of the
    original `d` only if it collides with `d` under CRC-32 -/
theorem wrong_key_needs_collision (crc : Bytes → Nat) (d g : Bytes)
    (h : deliver crc (some (crc d)) g = some g) (hne : g ≠ d) : crc g = crc d ∧ g ≠ d := by
  unfold deliver at h
  simp only [] at h
  split at h
  · rename_i he; exact ⟨he, hne⟩
  · simp at h

example : runModes (initMode false) [.setEncrypted true, .setEncoded false, .setEncrypted true] =
    { encoded := true, encrypted := true } := by decide +kernel

/-- The key is derived from exactly the password the caller gave: for a fixed salt, two passwords (lists of
    Unicode scalar values, in any normalisation form) feed the same bytes to the key derivation only if they are
    the same list of scalar values. In particular a password is never replaced by a canonically equivalent one
    (`a` + U+0308 and U+00E4 are different keys, as for every other 7z implementation). -/
theorem key_material_injective (salt : Bytes) (p q : List Nat)
    (hp : ∀ c ∈ p, IsScalar c) (hq : ∀ c ∈ q, IsScalar c)
    (h : keyMaterial salt p = keyMaterial salt q) : p = q := by
  unfold keyMaterial at h
  have hb := List.append_cancel_left h
  -- the unit reader inverts `unitsToBytes`
  have hunits : p.flatMap unitsOf = q.flatMap unitsOf := by
    have r1 := readUnits_units _ ((p.flatMap unitsOf).length + (q.flatMap unitsOf).length + 1) [] (units_ok p hp) (by omega)
    have r2 := readUnits_units _ ((p.flatMap unitsOf).length + (q.flatMap unitsOf).length + 1) [] (units_ok q hq) (by omega)
    rw [hb, r2] at r1
    exact (Prod.mk.inj r1).1.symm
  have h1 := decode_flatMap p hp
  have h2 := decode_flatMap q hq
  rw [hunits, h2] at h1
  exact (Option.some.inj h1).symm

/-- the key material is the salt followed by two bytes per UTF-16 unit: nothing else (no terminator, no
    length prefix) enters the hash besides the round counter -/
theorem key_material_length (salt : Bytes) (p : List Nat) :
    (keyMaterial salt p).length = salt.length + 2 * (p.flatMap unitsOf).length := by
  rw [keyMaterial, List.length_append, unitsToBytes_length]

/-- non-vacuity: the decomposed and the precomposed spelling of "ä" are both legal passwords and give
    different key material -/
example : keyMaterial [1, 2] [0x61, 0x308] = [1, 2, 0x61, 0, 0x08, 0x03] ∧
    keyMaterial [1, 2] [0xE4] = [1, 2, 0xE4, 0] ∧ IsScalar 0x61 ∧ IsScalar 0x308 ∧ IsScalar 0xE4 := by decide +kernel

end SevenZ.C11
