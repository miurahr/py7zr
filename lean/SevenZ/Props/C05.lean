/-
C05 — Any input terminates in bounded time and memory.
The decode loop, with the decoder chain universally quantified (every codec, every packed stream, every
header-declared size), and the header parser: what it builds is linear in the header bytes it was given,
whatever those bytes are.
-/
import SevenZ.Lemmas.Decode
import SevenZ.Lemmas.ParseBound
namespace SevenZ.C05
open SevenZ SevenZ.Impl

/-- For every decoder, every file content and every declared size, the repaired
    `Worker.decompress` / encoded-header loop finishes (with output or with an ordinary
    error) within `(declared output + unread packed bytes + 1)·(k+2)` iterations. -/
theorem decode_loop_terminates {σ} (ch : Chain σ) (cfg : DecCfg) (mb k : Nat)
    (st : DecState σ) (out : Nat) (acc : Bytes) :
    isOutOfFuel (workerLoop ch cfg mb (some k)
      ((out + (cfg.inputSize - st.consumed)) * (k + 2) + (k + 1) + 2) st out 0 acc) = false :=
  workerLoop_terminates ch cfg mb k _ st out 0 acc (by unfold loopMeasure; omega)

/-- The loop of the pinned tree had no progress check: with the input used up and a decoder
    that yields nothing it is still running after any number of iterations (finding F4,
    repaired by "fix: decoding stops with an error when the compressed stream ends short…"). -/
theorem decode_loop_unguarded_spins (cfg : DecCfg) (mb : Nat) (hmb : 0 < mb) (fuel out : Nat)
    (hout : 0 < out) :
    isOutOfFuel (workerLoop emptyChain cfg mb none fuel
      { chain := (), src := [] } out 0 []) = true :=
  workerLoop_spins cfg mb hmb _ rfl rfl rfl fuel out 0 [] hout

/-- each call hands out at most what was asked for, whatever the decoder does -/
theorem chunk_le_request {σ} (ch : Chain σ) (cfg : DecCfg) (st : DecState σ) (m : Nat) :
    (decompress ch cfg st m).1.length ≤ m :=
  decompress_len_le ch cfg st m

/- non-vacuity: a guarded run on a concrete stalled stream ends in `stalled`, not out of fuel -/
example : (match workerLoop emptyChain { inputSize := 10, blockSize := 4 } 100 (some 8) 50
    { chain := (), src := [1, 2, 3] } 5 0 [] with | .stalled _ => true | _ => false) = true := by decide +kernel

/-- **The header parser builds nothing that is not paid for in header bytes.** For EVERY byte string `buf` handed to
    `Header._read` (well-formed or not, any counts, any CRC-sealed mutation): if the parse succeeds, the member list
    has at most eight entries per header byte, the folder list and the pack-size list at most one, and the declared
    sub-stream counts add up to at most eight per header byte — the two `header_size * 8` guards in
    `FilesInfo._read` / `SubstreamsInfo._read` and the fact that every loop round of the other productions consumes a
    byte. (A 60-byte header cannot make the parser allocate 2^31 list entries; the count-bomb defects dea92af and F4
    were exactly the absence of this.) -/
theorem parsed_header_bounded (buf : Bytes) (H : Header) (h : Impl.readNextHeader buf = .ok (.raw H)) :
    (∀ fi, H.filesInfo = some fi → fi.files.length ≤ buf.length * 8) ∧
    (∀ st, H.mainStreams = some st →
      (∀ p, st.packinfo = some p → p.packsizes.length ≤ buf.length) ∧
      (∀ fs, st.folders = some fs → fs.length ≤ buf.length) ∧
      (∀ ss, st.substreams = some ss → ss.numUnpack.sum ≤ buf.length * 8 ∧ ss.numUnpack.length ≤ buf.length)) := by
  obtain ⟨_, e⟩ | ⟨rest, H', r, rfl, hr, e⟩ | ⟨_, _, _, _, _, e⟩ := readNextHeader_inv h <;> cases e
  exact readHeaderBody_post hr (Nat.le_succ _)

/-- the same for an EncodedHeader record (the streams of the packed header) -/
theorem parsed_encoded_bounded (buf : Bytes) (st : Streams) (h : Impl.readNextHeader buf = .ok (.encoded st)) :
    (∀ p, st.packinfo = some p → p.packsizes.length ≤ buf.length) ∧
    (∀ fs, st.folders = some fs → fs.length ≤ buf.length) ∧
    (∀ ss, st.substreams = some ss → ss.numUnpack.sum ≤ buf.length * 8 ∧ ss.numUnpack.length ≤ buf.length) := by
  obtain ⟨_, e⟩ | ⟨_, _, _, _, _, e⟩ | ⟨rest, st', r, rfl, hr, e⟩ := readNextHeader_inv h <;> cases e
  exact (readStreams_post hr).1 (Nat.le_succ _)

-- non-vacuity: a header that parses, and a 9-byte header that declares 2^31 members and is refused
example : (Impl.readNextHeader [0x01, 0x05, 0x01, 0x00, 0x00]).isOk = true ∧
    (Impl.readNextHeader [0x01, 0x05, 0xF0, 0x00, 0x00, 0x00, 0x80, 0x00, 0x00]).isOk = false := by decide +kernel

end SevenZ.C05
