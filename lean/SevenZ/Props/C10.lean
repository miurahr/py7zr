/-
C10 — Listings tell the truth about the archive (summary logic).
-/
import SevenZ.Model.Listing
import SevenZ.Model.Assign
import SevenZ.Lemmas.ImplSession
namespace SevenZ.C10
open SevenZ SevenZ.Impl

/-- method names: exactly the display names of the coder ids present, each once, in
    priority order -/
theorem method_names_iff (folders : List (List Bytes)) (x : String) :
    x ∈ getMethodsNames methodsNamelist folders ↔
      x ∈ methodsNamelist ∧ ∃ id ∈ folders.flatten, methodName id = some x := by
  unfold getMethodsNames
  simp only [List.mem_filter, List.contains_eq_mem, decide_eq_true_eq, List.mem_filterMap]

theorem method_names_nodup (folders : List (List Bytes)) :
    (getMethodsNames methodsNamelist folders).Nodup := by
  unfold getMethodsNames
  exact List.Nodup.sublist List.filter_sublist (by decide +kernel)

/-- every name in the coder table can be displayed (no coder is silently dropped) -/
theorem every_table_name_displayable : ∀ e ∈ methodTable, e.2 ∈ methodsNamelist := by decide +kernel

/-- The pinned list could not display Delta and Brotli (repaired by "fix: archiveinfo().method_names
    reports Delta and Brotli coders"). -/
theorem pinned_list_drops_delta_brotli :
    getMethodsNames methodsNamelistPinned [[[0x21], [0x03]]] = ["LZMA2"] ∧
    getMethodsNames methodsNamelistPinned [[[0x04, 0xF7, 0x11, 0x02]]] = [] ∧
    getMethodsNames methodsNamelist [[[0x21], [0x03]]] = ["LZMA2", "DELTA"] := by decide +kernel

/-- needs_password() is true exactly when an encryption coder is present or a password was supplied -/
theorem needs_password_iff (given : Bool) (folders : List (List Bytes)) :
    needsPassword given folders = true ↔ given = true ∨ ∃ coders ∈ folders, aesId ∈ coders := by
  simp [needsPassword]

/-- solid ⇔ some folder holds more than one sub-stream -/
theorem solid_iff (nums : List Nat) : isSolid nums = true ↔ ∃ n ∈ nums, n > 1 := by
  simp [isSolid]

example : needsPassword false [[[0x21]], [aesId, [0x21]]] = true ∧ needsPassword false [[[0x21]]] = false := by decide +kernel

/-! ### what the per-member listing reports, for every session py7zr writes -/

/-- what `list()` / `getinfo()` report of a slot: the uncompressed size and the CRC-32 (nothing for a member
    without a stream) -/
def reported (s : Slot4) : Option (Nat × Option Nat) := s.map (fun x => (x.2.2.1, x.2.2.2))

/-- the (size, CRC) the format assigns in a single folder are the sizes and CRCs handed in, member by member -/
theorem singleFolder_reported : ∀ (ms : List WMember) (off : Nat),
    (singleFolderMembers (ms.map memberFile) off ((dataMembers ms).map (fun m => m.blocks.flatten.length))
      ((dataMembers ms).map (fun m => some (crc32 m.blocks.flatten)))).map (fun x => reported x.stream) =
    ms.map (fun m => if m.emptystream then none else some (m.blocks.flatten.length, some (crc32 m.blocks.flatten)))
  | [], _ => rfl
  | m :: ms, off => by
    cases he : m.emptystream with
    | true =>
      have hd : dataMembers (m :: ms) = dataMembers ms := by simp [dataMembers, he]
      rw [hd]
      simp only [List.map_cons, singleFolderMembers, memberFile, he, if_true]
      rw [← singleFolder_reported ms off]
      simp [reported]
    | false =>
      have hd : dataMembers (m :: ms) = m :: dataMembers ms := by simp [dataMembers, he]
      rw [hd]
      simp only [List.map_cons, singleFolderMembers, memberFile, he, Bool.false_eq_true, if_false]
      rw [← singleFolder_reported ms (off + m.blocks.flatten.length)]
      simp [reported]

/-- **Listings tell the truth about every archive a create session writes.** For every member list, the cursor of
    `_real_get_contents` on the values the session stores (the source of `list()`, `getinfo()` and `files`) gives
    every member with a stream the length of exactly the bytes that were written for it and the CRC-32 of exactly
    those bytes, and gives a member without a stream nothing (reported as size 0, no CRC) — whatever the number of
    members, their sizes and their order. -/
theorem listing_truth_on_session (ms : List WMember) :
    ∃ slots, Impl.assign (ms.map (·.emptystream)) [(dataMembers ms).length]
        ((dataMembers ms).map (fun m => m.blocks.flatten.length))
        ((dataMembers ms).map (fun m => some (crc32 m.blocks.flatten))) = some slots ∧
      slots.map reported =
        ms.map (fun m => if m.emptystream then none else some (m.blocks.flatten.length, some (crc32 m.blocks.flatten))) := by
  refine ⟨_, cursor_on_session ms, ?_⟩
  rw [List.map_map]
  exact singleFolder_reported ms 0

example : (singleFolderMembers ([{ name := [97], emptystream := false, blocks := [[1, 2], [3]] }, { name := [98], emptystream := true }].map memberFile) 0 [3] [some 7]).map
    (fun x => reported x.stream) = [some (3, some 7), none] := by decide +kernel

end SevenZ.C10
