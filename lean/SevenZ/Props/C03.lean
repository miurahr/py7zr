/-
C03 — Extraction never writes outside the destination directory.
-/
import SevenZ.Model.FS
import SevenZ.Model.Path
namespace SevenZ.C03
open SevenZ SevenZ.Impl

theorem isRelativeTo_iff {q d : PPath} : isRelativeTo q d = true ↔
    q.root = (canonicalPath d).root ∧ (canonicalPath d).comps.isPrefixOf q.comps = true := by
  simp only [isRelativeTo, relativeTo, Bool.and_eq_true, decide_eq_true_eq]

/-- what `get_sanitized_output_path` returns is lexically under the (canonical) destination -/
theorem sanitized_inside (fname : Str) (dest p : PPath) (h : sanitizedOutputPath fname dest = some p) :
    p.root = (canonicalPath dest).root ∧ (canonicalPath dest).comps.isPrefixOf p.comps = true := by
  have ⟨hrel, hp⟩ := Option.ite_none_right_eq_some.1 h
  exact Option.some.inj hp ▸ isRelativeTo_iff.1 hrel

/-- the same for extraction into the working directory (`extractall()` without a path), after
    the repair: what is returned is a RELATIVE path, and joined to the working directory it is
    exactly the path that was checked to lie under it -/
theorem sanitized_inside_cwd (fname : Str) (cwd p : PPath) (h : sanitizedOutputPathCwd fname cwd = some p) :
    p.isAbsolute = false ∧
    (canonicalPath cwd).comps ++ p.comps =
      (canonicalPath (cwd.join (parse (if fname.head? = some '/' then dropWhileSlash fname else fname)))).comps := by
  have ⟨hrel, hp⟩ := Option.ite_none_right_eq_some.1 h
  rw [← Option.some.inj hp]
  exact ⟨rfl, List.prefix_iff_eq_append.1 (List.isPrefixOf_iff_prefix.1 (isRelativeTo_iff.1 hrel).2)⟩

/-- the pinned working-directory branch (defect repaired in 6d3f35c): the name `.//etc/x` is
    checked as `cwd/etc/x` but returned as the absolute path `/etc/x` -/
theorem cwd_branch_pinned_ce :
    (sanitizedOutputPathCwdPinned ".//etc/x".toList (parse "/home/u".toList)).map (fun p => (p.isAbsolute, p.toStr)) =
      some (true, "/etc/x".toList) ∧
    (sanitizedOutputPathCwd ".//etc/x".toList (parse "/home/u".toList)).map (fun p => (p.isAbsolute, p.toStr)) =
      some (false, "etc/x".toList) := by
  decide +kernel

example : sanitizedOutputPathCwd "a/../b/./c".toList (parse "/w".toList) = some { root := [], comps := ["b".toList, "c".toList] } := by decide +kernel

/-- Each kind of step resolves where it lands and then passes the same guard, so a step that
    is not refused reports a location under the destination. -/
theorem xstep_guarded {dest : Comps} {fs fs' : FSys} {op : XOp} {locs : List Comps}
    (h : xstep (some dest) fs op = some (locs, fs')) : ∀ l ∈ locs, inside dest l = true := by
  have guard : ∀ {x : Option Comps} {F : Comps → FSys},
      (match x with
        | none => none
        | some loc => if (some dest).any (fun d => !inside d loc) then none else some ([loc], F loc))
        = some (locs, fs') → ∀ l ∈ locs, inside dest l = true := by
    intro x F hx
    cases x with
    | none => cases hx
    | some loc =>
      simp only [Option.any_some] at hx
      split at hx
      · cases hx
      · next hg => cases hx; simpa using hg
  cases op <;> exact guard h

/-- With the guard of the repaired extraction — refuse a step whose resolved location is not
    under the resolved destination, never follow a final link when writing a file — every
    location any step mutates lies under the destination: for every initial file system,
    every sequence of steps (arbitrary names, kinds, link targets, any length), whether the run
    completes or stops at a refused step. -/
theorem guarded_no_escape (dest : Comps) : ∀ (ops : List XOp) (fs : FSys),
    ∀ loc ∈ xrun (some dest) fs ops, inside dest loc = true := by
  intro ops
  induction ops with
  | nil => intro fs loc h; cases h
  | cons op ops ih =>
    intro fs loc h
    rw [xrun] at h
    cases hs : xstep (some dest) fs op with
    | none => rw [hs] at h; cases h
    | some r =>
      rw [hs] at h
      exact (List.mem_append.1 h).elim (xstep_guarded hs loc) (ih r.2 loc)

def s (x : String) : Str := x.toList
def jailFs : FSys := { entries := [([s "jail"], .dir), ([s "jail", s "dest"], .dir)] }
def destC : Comps := [s "jail", s "dest"]

/-- entries `a -> "."`, `a/b -> ".."`, `b/evil`: each link is harmless on its own, followed one
    through the other they leave the destination -/
def chain : List XOp :=
  [.symlink (destC ++ [s "a"]) false [s "."],
   .symlink (destC ++ [s "a", s "b"]) false [s ".."],
   .mkdirs (destC ++ [s "b"]),
   .writeFile (destC ++ [s "b", s "evil"])]

/-- The pinned tree checks names and link targets only lexically: the chain makes it create
    `jail/evil`, outside `jail/dest` (finding F8).  With the guard the run stops at the
    second link and touches nothing outside. -/
theorem chain_escape_ce :
    (xrun none jailFs chain).any (fun loc => !inside destC loc) = true ∧
    (xrun (some destC) jailFs chain).all (fun loc => inside destC loc) = true := by
  decide +kernel

example : xrun none jailFs chain = [[s "jail", s "dest", s "a"], [s "jail", s "dest", s "b"], [s "jail"], [s "jail", s "evil"]] := by
  decide +kernel

end SevenZ.C03
