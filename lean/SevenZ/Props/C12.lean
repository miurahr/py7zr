/-
C12 — Read sessions are repeatable (session-logic part).
-/
import SevenZ.Model.Reader
namespace SevenZ.C12
open SevenZ SevenZ.Impl

/-- one call under the discipline: it answers as on a freshly opened archive, and "not dirty → the
    cache is fresh" holds again for what follows (`dirty'` is the flag `disciplined` goes on with) -/
theorem step_inv (a : RArchive) (c : Call) (rest : List Call) (cache : Cache) (dirty : Bool)
    (hinv : dirty = false → cache = freshCache a) (hd : disciplined dirty (c :: rest) = true) :
    (step true a cache c).2 = freshResult a c ∧
    ∃ dirty', (dirty' = false → (step true a cache c).1 = freshCache a) ∧
      disciplined dirty' rest = true := by
  cases c with
  | getnames | list | getinfo | archiveinfo | needsPassword => exact ⟨rfl, dirty, hinv, hd⟩
  | reset => exact ⟨rfl, false, fun _ => rfl, hd⟩
  | test => exact ⟨rfl, dirty, fun _ => rfl, hd⟩
  | testzip => exact ⟨rfl, true, nofun, hd⟩
  | extractall | extract _ =>
    -- the only calls whose answer depends on the cache: the discipline admits them only when not dirty
    cases dirty with
    | true => cases hd
    | false => obtain rfl := hinv rfl; exact ⟨rfl, true, nofun, hd⟩

theorem session_inv (a : RArchive) : ∀ (seq : List Call) (cache : Cache) (dirty : Bool),
    (dirty = false → cache = freshCache a) → disciplined dirty seq = true →
    runSession true a cache seq = seq.map (freshResult a) := by
  intro seq
  induction seq with
  | nil => intro _ _ _ _; rfl
  | cons c rest ih =>
    intro cache dirty hinv hd
    obtain ⟨hr, dirty', hinv', hd'⟩ := step_inv a c rest cache dirty hinv hd
    rw [runSession, List.map_cons, hr, ih _ dirty' hinv' hd']

/-- For every archive and every call sequence of any length in which each extract/extractall
    that follows a decoding call is preceded by `reset()` (test/testzip anywhere), every
    call gives the result the same call gives on a freshly opened archive. -/
theorem session_repeatable (a : RArchive) (seq : List Call) (hd : disciplined false seq = true) :
    runSession true a (freshCache a) seq = seq.map (freshResult a) :=
  session_inv a seq (freshCache a) false (fun _ => rfl) hd

/-- `reset()` maps every reachable state to the initial one -/
theorem reset_restores (a : RArchive) (cache : Cache) :
    (step true a cache .reset).1 = freshCache a := rfl

/-- the integrity verdicts do not depend on what was decoded before, reset or not -/
theorem verdicts_state_independent (a : RArchive) (cache : Cache) :
    (step true a cache .test).2 = freshResult a .test ∧
    (step true a cache .testzip).2 = freshResult a .testzip := ⟨rfl, rfl⟩

def twoMembers : RArchive := { folders := [[⟨0, 11⟩, ⟨1, 5⟩]] }

/-- The pinned tree's testzip()/test() kept the cached decoders: `[testzip, testzip]` and
    `[extractall, testzip]` run the second decode from an exhausted decoder (the real code
    never returned; finding F3, repaired by "fix: test() and testzip() start from fresh
    decoders…"). -/
theorem testzip_stale_cache_ce :
    runSession false twoMembers (freshCache twoMembers) [.testzip, .testzip] = [.verdictOk, .stall] ∧
    runSession false twoMembers (freshCache twoMembers) [.extractall, .testzip] ≠
      [.extractall, .testzip].map (freshResult twoMembers) ∧
    runSession true twoMembers (freshCache twoMembers) [.extractall, .testzip, .testzip, .reset, .extract [1]] =
      [.extractall, .testzip, .testzip, .reset, .extract [1]].map (freshResult twoMembers) := by
  decide +kernel

example : disciplined false [.extractall, .testzip, .test, .reset, .extract [1], .getnames, .testzip] = true := by decide
example : freshResult twoMembers (.extract [1]) = .delivered [⟨1, 0, 11, 5⟩] := by decide +kernel

end SevenZ.C12
