/-
C19 — The command line mirrors the library and its exit status tells the truth
(decision-logic part: volume sizes and the exit-status table).
-/
import SevenZ.Model.Cli
namespace SevenZ.C19
open SevenZ SevenZ.Impl

theorem takeWhile_digits (ds rest : Str) (hd : ∀ c ∈ ds, isDigit c = true)
    (hr : ∀ c, rest.head? = some c → isDigit c = false) :
    (ds ++ rest).takeWhile isDigit = ds ∧ (ds ++ rest).dropWhile isDigit = rest := by
  induction ds with
  | nil =>
    cases rest with
    | nil => simp
    | cons c cs => have := hr c rfl; simp [this]
  | cons d ds ih =>
    have hd0 := hd d (by simp)
    have := ih (fun c hc => hd c (by simp [hc]))
    simp [hd0, this]

/-- the nine spellings of the unit the help describes: none, b k m g in either case -/
def helpUnits : List Str := [[], ['b'], ['k'], ['m'], ['g'], ['B'], ['K'], ['M'], ['G']]

def helpMult (u : Str) : Nat := (unitMult u).getD 1

/-- `matchSize` on digits followed by something that does not start with a digit: the digits are
    split off and only the rest is looked at -/
theorem matchSize_digits (ds u : Str) (hne : ds ≠ []) (hd : ∀ c ∈ ds, isDigit c = true)
    (hr : ∀ c, u.head? = some c → isDigit c = false) :
    matchSize (ds ++ u) = (matchSize ('0' :: u)).map fun p => (ds, p.2) := by
  obtain ⟨ht, hdw⟩ := takeWhile_digits ds u hd hr
  obtain ⟨ht0, hdw0⟩ := takeWhile_digits ['0'] u (by decide) hr
  simp only [matchSize, ht, hdw, if_neg hne]
  rw [show '0' :: u = ['0'] ++ u from rfl, ht0, hdw0, if_neg (show ¬(['0'] : Str) = [] by decide)]
  split
  · rfl
  · split <;> rfl
  · rfl

/-- what the nine spellings do behind any digits: a closed table -/
theorem helpUnits_table : ∀ u ∈ helpUnits,
    (u.head?.all fun c => !isDigit c) = true ∧ matchSize ('0' :: u) = some (['0'], u) ∧
    (if u = [] then helpMult u = 1 else unitMult u = some (helpMult u)) := by
  decide +kernel

/-- multi-volume creation accepts every size the help describes — `{Size}[b|k|m|g]` — and
    converts it to `Size × unit`; in particular a size without a unit suffix -/
theorem volsize_accepts_help (ds u : Str) (hne : ds ≠ []) (hd : ∀ c ∈ ds, isDigit c = true)
    (hu : u ∈ helpUnits) :
    checkVolumeSize (ds ++ u) = true ∧ unitConv true (ds ++ u) = .size (digitsVal ds * helpMult u) := by
  obtain ⟨h1, h2, h3⟩ := helpUnits_table u hu
  have hm : matchSize (ds ++ u) = some (ds, u) := by
    rw [matchSize_digits ds u hne hd fun c hc => by simpa [hc] using h1, h2]; rfl
  simp only [checkVolumeSize, unitConv, hm, Option.isSome_some, true_and]
  split at h3
  · rename_i hu0; rw [if_pos hu0, h3, Nat.mul_one]
  · rename_i hu0; rw [if_neg hu0, h3]
/-- The pinned tree tested `unit is None`; the group is `''`, so a bare number raised
    KeyError (finding F2, repaired by "fix: accept a volume size without unit suffix"). -/
theorem no_unit_unrepaired_ce :
    unitConv false "1000".toList = .keyError ∧ unitConv true "1000".toList = .size 1000 := by
  decide +kernel

/-- `t` and `x`: status 0 exactly when the requested operation succeeded -/
theorem exit_status_table (o : Outcome) :
    (statusTest o = 0 ↔ o = .ok) ∧ (statusExtract o = 0 ↔ o = .ok) := by
  cases o <;> simp [statusTest, statusExtract]

example : "64".toList ≠ [] ∧ (∀ c ∈ "64".toList, isDigit c = true) ∧ ['k'] ∈ helpUnits ∧
    unitConv true "64k".toList = .size 65536 := by decide +kernel

end SevenZ.C19
