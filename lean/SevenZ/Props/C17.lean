/-
C17 — Header values survive storage across their whole legal range: NUMBER, fixed-width words, CRC lists,
boolean vectors, UTF-16 names, time and attribute vectors.
-/
import SevenZ.Lemmas.Number
import SevenZ.Lemmas.BoolVec
import SevenZ.Lemmas.Utf16
import SevenZ.Lemmas.ImplFiles
namespace SevenZ.C17
open SevenZ SevenZ.Impl

/-- every value of 0..2^64-1 written by `write_uint64` is read back by `read_uint64`,
    leaving exactly the bytes that followed it -/
theorem number_roundtrip (v : Nat) (hv : v < 2 ^ 64) (tail : Bytes) :
    readNumber (writeNumber v ++ tail) = some (v, tail) :=
  SevenZ.number_roundtrip v hv tail

/-- … in at most nine bytes -/
theorem number_len (v : Nat) (hv : v < 2 ^ 64) : (writeNumber v).length ≤ 9 :=
  SevenZ.number_len v hv

/-- py7zr reads every specification-conforming encoding (minimal or not) exactly as the
    decoder written from the specification does -/
theorem number_reads_spec (b : Nat) (rest : Bytes) (hb : b < 256)
    (hlen : Spec.leadingOnes b ≤ rest.length) :
    readNumber (b :: rest) = Spec.decodeNumber (b :: rest) :=
  SevenZ.number_reads_spec b rest hb hlen

/-- the decoder written from the specification reads back what `write_uint64` wrote -/
theorem number_write_spec (v : Nat) (hv : v < 2 ^ 64) (tail : Bytes) :
    Spec.decodeNumber (writeNumber v ++ tail) = some (v, tail) :=
  SevenZ.number_spec_roundtrip v hv tail

/-- fixed-width little-endian fields (UINT32 CRCs/attributes, UINT64 FILETIMEs) -/
theorem fixed_roundtrip (v k : Nat) (hv : v < 256 ^ k) (tail : Bytes) :
    ofLE ((leBytes v k ++ tail).take k) = v ∧ (leBytes v k ++ tail).drop k = tail := by
  have hlen := leBytes_length v k
  rw [List.take_left' hlen, List.drop_left' hlen, ofLE_leBytes_lt v k hv]
  exact ⟨rfl, rfl⟩

theorem crcBytes_length (crcs : List Nat) : (crcBytes crcs).length = 4 * crcs.length := by
  rw [crcBytes, List.length_flatMap, List.map_congr_left fun c _ => leBytes_length c 4, List.map_const', List.sum_replicate_nat,
    Nat.mul_comm]

theorem crcs_go (crcs : List Nat) (hv : ∀ c ∈ crcs, c < 2 ^ 32) :
    pCrcs.go crcs.length (crcBytes crcs) = crcs := by
  induction crcs with
  | nil => rfl
  | cons c cs ih =>
    have hc : c < 256 ^ 4 := by have := hv c (by simp); omega
    have e : crcBytes (c :: cs) = leBytes c 4 ++ crcBytes cs := by simp [crcBytes]
    rw [e, List.length_cons, pCrcs.go]
    obtain ⟨h1, h2⟩ := fixed_roundtrip c 4 hc (crcBytes cs)
    rw [h1, h2, ih (fun d hd => hv d (by simp [hd]))]

/-- CRC lists of any length: `read_crcs(count)` given what `write_crcs` emitted returns exactly
    the written 32-bit values and leaves the cursor right behind them -/
theorem crcs_roundtrip (crcs : List Nat) (hv : ∀ c ∈ crcs, c < 2 ^ 32) (tail : Bytes) :
    pCrcs crcs.length (crcBytes crcs ++ tail) = .ok (crcs, tail) := by
  have hl := crcBytes_length crcs
  unfold pCrcs
  simp only [List.take_left' hl, List.drop_left' hl, hl, Nat.lt_irrefl, if_false]
  rw [crcs_go crcs hv]

/-- … and a list cut short is refused, never read as fewer or other CRCs -/
theorem crcs_short_refused (count : Nat) (bs : Bytes) (h : bs.length < 4 * count) :
    pCrcs count bs = .error .malformed := by
  unfold pCrcs
  have : (bs.take (4 * count)).length < 4 * count := by rw [List.length_take]; omega
  simp only [this, if_true]

/- non-vacuity: extreme values meet the hypothesis, and the bytes are the expected ones -/
example : crcBytes [0xFFFFFFFF, 0x01020304] = [255, 255, 255, 255, 4, 3, 2, 1] ∧
    (∀ c ∈ [0xFFFFFFFF, 0x01020304], c < 2 ^ 32) := by decide
example : pCrcs 2 (crcBytes [0xFFFFFFFF, 0x01020304] ++ [9]) = .ok ([0xFFFFFFFF, 0x01020304], [9]) :=
  crcs_roundtrip [0xFFFFFFFF, 0x01020304] (by decide) [9]

/-- boolean vectors of every length, with and without the all-defined shortcut -/
theorem bools_roundtrip (bs : List Bool) (allDefined : Bool) (tail : Bytes) :
    readBools bs.length allDefined (writeBools bs allDefined ++ tail) = some (bs, tail) :=
  SevenZ.bools_roundtrip bs allDefined tail

/-- a packed vector occupies ⌈n/8⌉ bytes -/
theorem bools_length (bs : List Bool) : (writeBools bs false).length = bitsToBytes bs.length :=
  SevenZ.writeBools_length bs

/-- names: any scalar values except NUL, up to 65535 UTF-16 units -/
theorem utf16_roundtrip (cs : List Nat) (hs : ∀ c ∈ cs, IsScalar c)
    (hlen : (cs.flatMap unitsOf).length < maxLength) (tail : Bytes) :
    readUtf16 (writeUtf16 cs ++ tail) = some (cs, tail) :=
  SevenZ.utf16_roundtrip cs hs hlen tail

/-- one file entry per slot, the reader's view: every key set, to a value or to None -/
def withMtimes (files : List FileEntry) (slots : List (Slot Nat)) : List FileEntry :=
  (files.zip slots).map (fun (f, s) => setTime .m f (normSlot s))

/-- timestamps over the whole unsigned 64-bit range, undefined entries staying undefined:
    the property loop of `FilesInfo._read`, given the block `_write_times` emits, continues
    with exactly the written values (any number of files < 2^32, any definedness pattern) -/
theorem times_vector_roundtrip (fuel n ne : Nat) (fi : FilesInfo) (slots : List (Slot Nat))
    (hlen : slots.length = fi.files.length) (hn : slots.length < 2 ^ 32)
    (hv : ∀ s ∈ slots, ∀ t, s = .val t → t < 2 ^ 64) (rest : Bytes) :
    readFileProps (fuel + 1) n fi ne (timesBlock true 0x14 slots ++ rest) =
      readFileProps fuel n { fi with files := withMtimes fi.files slots } ne rest :=
  impl_times_step fuel n ne fi slots hlen hn hv rest

/-- attribute words, undefined entries staying undefined -/
theorem attrs_vector_roundtrip (fuel n ne : Nat) (fi : FilesInfo) (slots : List (Slot Nat))
    (hlen : slots.length = fi.files.length) (hnf : n = fi.files.length) (hn : slots.length < 2 ^ 32)
    (hv : ∀ s ∈ slots, ∀ t, s = .val t → t < 2 ^ 32) (rest : Bytes) :
    readFileProps (fuel + 1) n fi ne (attrsBlock true slots ++ rest) =
      readFileProps fuel n
        { fi with files := (fi.files.zip slots).map (fun (f, s) => { f with attributes := normSlot s }) } ne rest :=
  impl_attrs_step fuel n ne fi slots hlen hnf hn hv rest

def isOk {ε α} : Except ε α → Bool
  | .ok _ => true
  | .error _ => false

/-- nine files, one defined timestamp -/
def nineOneDefined : List (Slot Nat) :=
  [.undef, .undef, .undef, .val 123456789, .undef, .undef, .undef, .undef, .undef]

/-- The size computation of the tree as pinned (`bits_to_bytes(num_defined)`, finding F1,
    repaired by commit "fix: size of partially defined time/attribute vectors …") made the
    statement false: the block written for nine files with one defined timestamp was not
    parsed back.  Kept as the record of the repaired defect; the correspondence stream runs
    the model with the repaired computation. -/
theorem partial_vector_unrepaired_ce :
    isOk (readFileProps 3 9 { files := List.replicate 9 {} } 0
      (timesBlock false 0x14 nineOneDefined ++ [0x00])) = false ∧
    isOk (readFileProps 3 9 { files := List.replicate 9 {} } 0
      (timesBlock true 0x14 nineOneDefined ++ [0x00])) = true := by
  decide +kernel

/- non-vacuity: the hypotheses are met by concrete non-trivial values -/
example : (14921046061426453453 : Nat) < 2 ^ 64 ∧
    writeNumber 14921046061426453453 = [0xFF, 0xCD, 0xAB, 0x90, 0x78, 0x56, 0x34, 0x12, 0xCF] := by decide
example : writeNumber 0x1234 = [0x92, 0x34] ∧ readNumber [0x92, 0x34, 7] = some (0x1234, [7]) := by decide
example : IsScalar 0x1F600 ∧ IsScalar 1 ∧ (([0x1F600, 1].flatMap unitsOf).length < maxLength) := by decide
example : writeBools [true, false, true, true, false, true, false, false, true] true = [0, 0xB4, 0x80] := by decide

example : nineOneDefined.length = (List.replicate 9 ({} : FileEntry)).length ∧ nineOneDefined.length < 2 ^ 32 := by decide

end SevenZ.C17
