/-
C15 — A failed write call does not poison the archive (session bookkeeping).
-/
import SevenZ.Model.Writer
namespace SevenZ.C15
open SevenZ SevenZ.Impl

/-- what a state describes: the registered members, their sizes and CRCs -/
def described (st : WState) : List WEntry × List Nat × List Nat := (st.files, st.sizes, st.crcs)

/-- A `proceed` call on the repaired tree when the index points past the registered members:
    the new member is the one archived, so it is either recorded or withdrawn again. -/
theorem writeCall_proceed (st : WState) (f : WEntry) (hinv : st.curIdx = st.files.length) :
    writeCall true st .proceed f =
      if callOk (.proceed, f) then
        ({ files := st.files ++ [f], curIdx := st.curIdx + 1, initialized := true,
           sizes := st.sizes ++ (if f.emptystream then [] else [f.size]),
           crcs := st.crcs ++ (if f.emptystream then [] else [f.crc]) }, false)
      else ({ st with initialized := true }, true) := by
  have hget : (st.files ++ [f])[st.curIdx]? = some f := by
    rw [hinv, List.getElem?_append_right (Nat.le_refl _), Nat.sub_self]; rfl
  cases he : f.emptystream <;> cases hs : f.sourceOk <;>
    simp only [writeCall, archiveStep, hget, callOk, he, hs, Bool.false_eq_true, ↓reduceIte, Bool.not_false,
      Bool.not_true, List.dropLast_concat, List.append_nil, BEq.rfl, Bool.or_self, Bool.or_true, Bool.or_false,
      Bool.and_false, Bool.and_self]

theorem step_ok (st : WState) (k : CallKind) (f : WEntry) (hinv : st.curIdx = st.files.length)
    (hok : callOk (k, f) = true) :
    (writeCall true st k f).2 = false ∧ (writeCall true st k f).1.curIdx = (writeCall true st k f).1.files.length ∧
    (writeCall true st k f).1.files = st.files ++ [f] ∧
    (writeCall true st k f).1.sizes = st.sizes ++ (if f.emptystream then [] else [f.size]) ∧
    (writeCall true st k f).1.crcs = st.crcs ++ (if f.emptystream then [] else [f.crc]) := by
  cases k <;> try exact Bool.noConfusion hok
  rw [writeCall_proceed st f hinv, if_pos hok]
  exact ⟨rfl, by simp only [hinv, List.length_append, List.length_singleton], rfl, rfl, rfl⟩

theorem step_fail (st : WState) (k : CallKind) (f : WEntry) (hinv : st.curIdx = st.files.length)
    (hok : callOk (k, f) = false) :
    (writeCall true st k f).2 = true ∧ described (writeCall true st k f).1 = described st ∧
    (writeCall true st k f).1.curIdx = st.curIdx := by
  cases k with
  | proceed => rw [writeCall_proceed st f hinv, hok]; exact ⟨rfl, rfl, rfl⟩
  | _ => exact ⟨rfl, rfl, rfl⟩

/-- Closed form of a session on the repaired tree: the calls that raise are the failing ones, and
    the archive describes what it described before, then the members of the successful calls. -/
theorem runCalls_closed (calls : List (CallKind × WEntry)) : ∀ st : WState, st.curIdx = st.files.length →
    (runCalls true st calls).2 = calls.map (fun c => !callOk c) ∧
    (runCalls true st calls).1.curIdx = (runCalls true st calls).1.files.length ∧
    described (runCalls true st calls).1 =
      (st.files ++ (calls.filter callOk).map (·.2),
       st.sizes ++ (calls.filter callOk).flatMap (fun c => if c.2.emptystream then [] else [c.2.size]),
       st.crcs ++ (calls.filter callOk).flatMap (fun c => if c.2.emptystream then [] else [c.2.crc])) := by
  induction calls with
  | nil => intro st h; exact ⟨rfl, h, by simp [described, runCalls]⟩
  | cons c rest ih =>
    intro st hinv
    obtain ⟨k, f⟩ := c
    rw [runCalls, List.map_cons, List.filter_cons]
    cases hok : callOk (k, f)
    · have ⟨h1, h2, h3⟩ := step_fail st k f hinv hok
      simp only [described, Prod.mk.injEq] at h2
      have ⟨i1, i2, i3⟩ := ih (writeCall true st k f).1 (by rw [h3, h2.1, hinv])
      rw [h2.1, h2.2.1, h2.2.2] at i3
      exact ⟨by rw [h1, i1]; rfl, i2, i3⟩
    · have ⟨h1, h2, h3, h4, h5⟩ := step_ok st k f hinv hok
      have ⟨i1, i2, i3⟩ := ih (writeCall true st k f).1 h2
      rw [h3, h4, h5] at i3
      refine ⟨by rw [h1, i1]; rfl, i2, ?_⟩
      simp only [if_true, List.map_cons, List.flatMap_cons, i3, List.append_assoc, List.singleton_append]

/-- For every history of write calls with any number of failing calls at any stage
    (argument rejected, stat fails, source fails after registration): each failing call
    raises, each other call does not, and the closed archive describes exactly the members of
    the successful calls, in order, with their sizes and CRCs — as if the failed calls had
    never been made; the failed source is never retried. -/
theorem failed_calls_transparent (calls : List (CallKind × WEntry)) :
    ∀ st : WState, st.curIdx = st.files.length →
      (runCalls true st calls).2 = calls.map (fun c => !callOk c) ∧
      described (runCalls true st calls).1 = described (runCalls true st (calls.filter callOk)).1 ∧
      (runCalls true st calls).1.curIdx = (runCalls true st calls).1.files.length := by
  intro st hinv
  have ⟨h1, h2, h3⟩ := runCalls_closed calls st hinv
  have ⟨_, _, g3⟩ := runCalls_closed (calls.filter callOk) st hinv
  simp only [List.filter_filter, Bool.and_self] at g3
  exact ⟨h1, h3.trans g3.symm, h2⟩

def bad : WEntry := { name := 1, size := 9, crc := 1, sourceOk := false }
def good : WEntry := { name := 2, size := 4, crc := 2 }

/-- The pinned tree kept a registered member whose source failed and did not advance the
    index: the next call retried the failed source and raised too, and the closed archive
    described a data member without a size (unreadable).  Finding F7, repaired by
    "fix: a write call that fails after registering its member withdraws the member". -/
theorem stale_index_ce :
    (runCalls false {} [(.proceed, bad), (.proceed, good)]).2 = [true, true] ∧
    consistent (runCalls false {} [(.proceed, bad), (.proceed, good)]).1 = false ∧
    (runCalls true {} [(.proceed, bad), (.proceed, good)]).2 = [true, false] ∧
    consistent (runCalls true {} [(.proceed, bad), (.proceed, good)]).1 = true := by
  decide

end SevenZ.C15
