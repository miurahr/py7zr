/-
C07 — Writer conformance: the strict reader accepts what py7zr's writer emits — each section, the raw header,
and the whole archive of a create session in raw and in encoded header mode — and recovers what was written;
the compressor's counters describe the bytes.
-/
import SevenZ.Lemmas.SpecEncoded
import SevenZ.Lemmas.ImplSession
namespace SevenZ.C07
open SevenZ SevenZ.Impl

/-- "file properties are encoded with the sizes the grammar requires": the body of the
    time property is exactly as long as its Size field says, for every definedness pattern -/
theorem times_size_exact (slots : List (Slot Nat)) :
    (writeBools (slots.map Slot.isVal) true ++ [0x00] ++ payload 8 slots).length =
      ((slots.map Slot.isVal).filter id).length * 8 + 2 +
        (if (slots.map Slot.isVal).all id then 0 else bitsToBytes (slots.map Slot.isVal).length) :=
  by rw [← payload_eq_flatMap, List.append_assoc]; exact vectorBody_length 8 slots

/-- the same for the attribute property -/
theorem attrs_size_exact (slots : List (Slot Nat)) :
    (writeBools (slots.map Slot.isVal) true ++ [0x00] ++ payload 4 slots).length =
      ((slots.map Slot.isVal).filter id).length * 4 + 2 +
        (if ((slots.map Slot.isVal).filter id).length ≠ (slots.map Slot.isVal).length
         then bitsToBytes (slots.map Slot.isVal).length else 0) :=
  by simp only [← payload_eq_flatMap, List.append_assoc, ne_eq, ← all_id_iff_filter_length, ite_not]; exact vectorBody_length 4 slots

/-- bit vectors have ⌈n/8⌉ bytes -/
theorem bitvector_bytes (bs : List Bool) : (writeBools bs false).length = bitsToBytes bs.length :=
  writeBools_length bs

/-- An independent reader accepts what the writer emits for the MTime property and recovers
    exactly the written values, undefined entries staying undefined: the strict reader's
    property loop (which insists that the Size field equals the bytes consumed, that the bit
    vector has ⌈n/8⌉ bytes with zero padding, and that the external flag is 0) steps over the
    block written for ANY definedness pattern and any 64-bit values. -/
theorem strict_reader_accepts_times (fuel n ne : Nat) (seen : Bool) (files : List Spec.SFile) (slots : List (Slot Nat))
    (hlen : slots.length = n) (hn : slots.length < 2 ^ 32)
    (hv : ∀ s ∈ slots, ∀ t, s = .val t → t < 256 ^ 8) (rest : Bytes) :
    Spec.sFileProps (fuel + 1) n files ne seen (timesBlock true 0x14 slots ++ rest) =
      Spec.sFileProps fuel n (Spec.setList files (slots.map slotOpt) (fun f t => { f with mtime := t })) ne seen rest :=
  spec_times_step fuel n ne seen files slots hlen hn hv rest

/-- the same for the Attributes property -/
theorem strict_reader_accepts_attrs (fuel n ne : Nat) (seen : Bool) (files : List Spec.SFile) (slots : List (Slot Nat))
    (hlen : slots.length = n) (hn : slots.length < 2 ^ 32)
    (hv : ∀ s ∈ slots, ∀ t, s = .val t → t < 256 ^ 4) (rest : Bytes) :
    Spec.sFileProps (fuel + 1) n files ne seen (attrsBlock true slots ++ rest) =
      Spec.sFileProps fuel n (Spec.setList files (slots.map slotOpt) (fun f t => { f with attr := t })) ne seen rest :=
  spec_attrs_step fuel n ne seen files slots hlen hn hv rest

/-- Writer conformance of the whole FilesInfo section.  For ANY member list — any number of
    members below 2^32, names over all Unicode scalar values (BMP and astral), any pattern of
    empty-stream entries, modification times and attribute words defined or undefined in any
    pattern, written at any file offset (which decides the kDummy padding) — the bytes
    `FilesInfo.write` emits are accepted by the strict reader, a parser written from the format
    document that checks every count, property size, bit-vector length and padding, and it
    recovers for every member exactly the name, the empty-stream flag, the time and the
    attribute word that were written; undefined entries stay undefined. -/
theorem strict_reader_accepts_filesinfo (fi : FilesInfo) (pos : Nat) (rest : Bytes)
    (hnm : ∀ e ∈ fi.files, e.filename.isSome = true) (hsc : ∀ e ∈ fi.files, ∀ c ∈ nameOf e, IsScalar c)
    (hn : fi.files.length < 2 ^ 32)
    (hmt : ∀ e ∈ fi.files, ∀ t, e.mtime = .val t → t < 256 ^ 8) (hat : ∀ e ∈ fi.files, ∀ t, e.attributes = .val t → t < 256 ^ 4)
    (hsize : ((fi.files.map nameOf).map (fun n => 2 * (n.flatMap unitsOf).length + 2)).sum + 1 < 2 ^ 64)
    (hef : (fi.files.map (·.emptystream)).any id = false → fi.emptyfiles.any id = false) :
    Spec.sFilesInfo ((writeFilesInfo true fi pos).drop 1 ++ rest) = .ok (fi.files.map toSFile, rest) :=
  sFilesInfo_parses ⟨hnm, hsc, hn, hmt, hat, hsize, hef⟩ pos rest

/-- the hypotheses are satisfiable: a directory, a file with an astral-plane name, an undefined time -/
example : (Spec.sFilesInfo ((writeFilesInfo true
      { files := [{ emptystream := true, filename := some [100], mtime := .val 5, attributes := .val 16 },
                  { emptystream := false, filename := some [0x1F600, 46, 97], mtime := .undef, attributes := .val 32 }],
        emptyfiles := [false, false] } 35).drop 1 ++ [7, 7])).toOption =
    some ([{ name := some [100], emptyStream := true, mtime := some 5, attr := some 16 },
          { name := some [0x1F600, 46, 97], emptyStream := false, mtime := none, attr := some 32 }], [7, 7]) := by
  decide +kernel

/-- Writer conformance of the PackInfo section: for any number of packed streams, any
    position and sizes below 2^64 and any pattern of defined digests, what `PackInfo.write`
    emits is accepted by the strict reader and decodes to the same position, sizes and digests
    ("packed sizes ... CRCs describe the bytes" is then a statement about these values). -/
theorem strict_reader_accepts_packinfo (p : PackInfo) (bytes rest : Bytes) (hw : writePackInfo p = some bytes)
    (hpos : p.packpos < 2 ^ 64) (hn : p.numstreams < 2 ^ 64) (hv : ∀ v ∈ p.packsizes, v < 2 ^ 64)
    (hd : p.digestdefined.foldl (· || ·) p.enableDigests = true → p.digestdefined.length = p.numstreams)
    (hc : ∀ c ∈ p.crcs, c < 256 ^ 4) :
    Spec.sPackInfo (bytes.drop 1 ++ rest) = .ok (expectedPack p, rest) :=
  sPackInfo_parses hw ⟨hpos, hn, hv, hd, hc⟩ rest

example : (writePackInfo { packpos := 0, numstreams := 2, packsizes := [300, 70000], digestdefined := [true, false], crcs := [7, 0], enableDigests := true }).isSome = true := by
  decide

/-- Writer conformance of the Folder / UnpackInfo section: for any number of folders, each
    with any coder graph the grammar allows (1..32 coders, simple or complex, with or without
    properties, ids up to 15 bytes, bind pairs in range, one or several packed streams), what
    `UnpackInfo.write` emits is accepted by the strict reader and decodes to the same coders,
    bind pairs, packed streams and per-coder unpack sizes ("counts agree between sections"). -/
theorem strict_reader_accepts_unpackinfo (folders : List Folder) (hn : folders.length < 2 ^ 64)
    (hwf : ∀ f ∈ folders, WFFolder f) (rest : Bytes) :
    Spec.sUnpackInfo ((writeUnpackInfo folders).drop 1 ++ rest) = .ok (folders.map toSFolder, rest) :=
  sUnpackInfo_parses folders hn hwf rest

/-- the folder py7zr builds for the filter chain [Delta, LZMA2]-style two-coder chain is well-formed -/
def exampleFolder : Folder :=
  { coders := [{ method := [0x21], props := some [0x18] }, { method := [3], props := some [0] }],
    bindpairs := [(1, 0)], packedIndices := [], unpacksizes := [30, 30] }

example : WFFolder exampleFolder := by
  refine ⟨by decide, ?_, by decide, by decide, by decide, by decide, by decide, by decide, by decide⟩
  intro c hc
  simp only [exampleFolder, List.mem_cons, List.not_mem_nil, or_false] at hc
  rcases hc with rfl | rfl <;> exact ⟨by decide, by decide, by decide, by intro p hp; cases hp; decide⟩

/-- Writer conformance of the SubStreamsInfo section: for any number of folders, any number
    of sub-streams per folder (none, one, several), sizes that tile each folder's output, and
    any digest-definedness pattern, what `SubstreamsInfo.write` emits — with NumUnpackStream and
    Size elided or present as the writer decides — is accepted by the strict reader, which
    recovers every count, every size (the implicit last one of each folder included) and every
    digest ("declared unpacked sizes and CRCs", "counts agree between sections"). -/
theorem strict_reader_accepts_substreams (s : SubStreams) (sf : List Spec.SFolder) (bytes rest : Bytes)
    (hw : writeSubStreams s = some bytes) (hne : s.numUnpack ≠ [])
    (hlen : s.numUnpack.length = sf.length) (hcrc : ∀ f ∈ sf, f.crc = none)
    (hn : ∀ n ∈ s.numUnpack, n < 2 ^ 64)
    (sizes : List Nat) (hs : s.unpacksizes = some sizes) (hok : SizesOK s.numUnpack sf sizes)
    (hv : ∀ v ∈ sizes, v < 2 ^ 64)
    (hdl : s.digestsdefined.length = s.numUnpack.sum) (hcl : s.digests.length = s.numUnpack.sum)
    (hc : ∀ c ∈ s.digests, c < 256 ^ 4) :
    Spec.sSubStreams sf (bytes.drop 1 ++ rest) = .ok ((s.numUnpack, sizes, expectedSubCrcs s), rest) :=
  sSubStreams_parses s sf bytes hw hne hlen hcrc hn sizes hs hok hv hdl hcl hc rest

/-- Writer conformance of the whole StreamsInfo section (PackInfo + UnpackInfo + SubStreamsInfo
    and the agreement of their counts) -/
theorem strict_reader_accepts_streams (s : Streams) (p : PackInfo) (fs : List Folder) (ss : SubStreams) (sizes : List Nat)
    (wf : WFStreams s p fs ss sizes) (bytes rest : Bytes) (hw : writeStreams s = some bytes) :
    Spec.sStreams (bytes.drop 1 ++ rest) = .ok (expectedStreams p fs ss sizes, rest) :=
  sStreams_parses wf hw rest

/-- **Writer conformance of the whole header.**  For EVERY header the writer can hold — any
    number of folders with any legal coder graphs, any number of packed streams with any digest
    pattern, any number of sub-streams per folder whose sizes tile the folder, any member list
    (names over all Unicode scalar values, empty-stream entries anywhere, times and attributes
    defined or not), written at any file offset — the bytes `Header.write` emits in raw form
    are accepted by the strict reader (a parser written from the format document that checks
    every count, size, vector length, END marker and the agreement of counts between
    sections) and decode to exactly the streams and members that were written, with nothing
    left over. -/
theorem strict_reader_accepts_header (h : Header) (s : Streams) (p : PackInfo) (fs : List Folder) (ss : SubStreams)
    (sizes : List Nat) (fi : FilesInfo) (hs : h.mainStreams = some s) (hfi : h.filesInfo = some fi)
    (wf : WFStreams s p fs ss sizes) (wff : WFFiles fi) (pos : Nat) (bytes : Bytes)
    (hw : writeHeaderRaw true h pos = some bytes) :
    Spec.readTop bytes = .ok (.raw (expectedHeader p fs ss sizes fi)) :=
  spec_reads_header h s p fs ss sizes fi hs hfi wf wff pos bytes hw

/-- "Declared unpacked sizes and CRCs equal those of the content; packed sizes describe the
    bytes on disk": for ANY chain of codec stages (arbitrary state and compress/flush functions),
    ANY list of members and ANY cutting of each member into read blocks, a fresh
    `SevenZipCompressor` that has compressed them and been flushed reports for every member the
    length and CRC-32 of its bytes; the first stage's input counter — which `unpacksizes` puts
    LAST in the folder's size list, see `unpacksizes_last` — is the total size of the members;
    `packsize` is the number of bytes written and `digest` their CRC-32. -/
theorem compressor_accounting {σ} (chain : List (StageSt σ)) (hne : chain ≠ []) (hfed : headFed chain = 0)
    (members : List (List Bytes)) :
    let c0 : Cmp σ := { chain := chain }
    let r := compressAll c0 members
    let f := flushCmp r.1
    r.2 = members.map (fun m => (m.flatten.length, crc32 m.flatten)) ∧
    headFed f.1.chain = (members.map (fun m => m.flatten.length)).sum ∧
    f.1.packsize = f.1.out.length ∧ f.1.digest = crc32 f.1.out ∧ f.1.chain.length = chain.length :=
  SevenZ.compressor_accounting chain hne hfed members

/-- the `unpacksizes` property lists one size per coder and ends with the first stage's counter,
    whatever the methods map is (native filters sharing a stage or not) -/
theorem unpacksizes_last (m : Bool) (ms : List Bool) (fed R : List Nat) (h : unpacksizesOf (m :: ms) fed = some R) :
    R.getLast? = fed[0]? ∧ R.length = ms.length + 1 :=
  unpacksizesOf_spec m ms fed R h

/-- **A whole create session conforms** (signature header + packed area + raw header).  For
    EVERY list of write calls — any names over all Unicode scalar values, directories and data
    members in any order, every member's bytes delivered in any blocks —, EVERY chain of codec
    stages and any well-formed coder records: the archive file the session leaves is accepted by
    the strict archive reader (magic, start-header CRC, header found by offset and size ending
    exactly at the end of the file, header CRC, every count / size / END check of the header
    database); the packed sizes tile the data area exactly; and the format's assignment returns
    exactly the members written, in order, each data member with the length and CRC-32 of its
    bytes at the offset where its predecessors end.  The three size hypotheses are the 64-bit
    limits of the format (packed area, per-coder sizes, header length). -/
theorem session_archive_conforms {σ} (cfg : WConfig σ) (ms : List WMember) (img : Bytes)
    (wfc : WFConfig cfg) (wfm : WFMembers ms)
    (hout : (sessionCompress cfg ms).1.out.length < 2 ^ 64)
    (hus : ∀ us, unpacksizesOf cfg.methodsMap ((sessionCompress cfg ms).1.chain.map (·.fed)) = some us → ∀ v ∈ us, v < 2 ^ 64)
    (hhl : ∀ H hdr, sessionHeader cfg ms = some H →
      writeHeaderRaw true H (32 + (sessionCompress cfg ms).1.out.length) = some hdr → hdr.length < 2 ^ 64)
    (h : sessionArchive cfg ms = some img) :
    ∃ H st, Spec.readArchive img = .ok { top := .raw H, dataArea := (sessionCompress cfg ms).1.out } ∧
      H.streams = some st ∧ Spec.tilesExactly st (sessionCompress cfg ms).1.out = true ∧
      Spec.members H = .ok (expectedMembers ms) :=
  SevenZ.session_archive_conforms cfg ms img wfc wfm hout hus hhl h

/-- a concrete session (a directory, a 3-byte member in two blocks, an empty member; a chain
    of two stages, one buffering everything until flush) produces an archive: the conclusion
    of `session_archive_conforms` is not vacuous -/
def exampleConfig : WConfig Bytes :=
  { coders := [{ method := [0x21], props := some [0x18] }, { method := [3], props := some [1] }],
    methodsMap := [true, true],
    chain := [{ stage := { compress := fun s d => (s ++ d, []), flush := fun s => ([], s) }, st := [] }],
    enableDigests := true }

def exampleMembers : List WMember :=
  [{ name := [100], emptystream := true, mtime := .val 5, attr := .val 16 },
   { name := [0x1F600, 47, 97], emptystream := false, blocks := [[1, 2], [3]], mtime := .val 7, attr := .val 32 },
   { name := [98], emptystream := false, blocks := [], mtime := .undef, attr := .val 32 }]

example : ((sessionArchive exampleConfig exampleMembers).map List.length) = some 156 := by decide +kernel

/-- names and sub-stream assignment an independent reader recovers from an archive image -/
def recovered (img : Bytes) : Option (List (Option (List Nat) × Option (Nat × Nat × Nat × Option Nat))) :=
  match Spec.readArchive img with
  | .ok a =>
    match a.top with
    | .raw H =>
      match Spec.members H with
      | .ok l => some (l.map (fun m => (m.file.name, m.stream)))
      | .error _ => none
    | _ => none
  | .error _ => none

example : ((sessionArchive exampleConfig exampleMembers).bind recovered ==
    some [(some [100], none), (some [0x1F600, 47, 97], some (0, 0, 3, some 1438416925)), (some [98], some (0, 3, 0, some 0))]) = true := by
  decide +kernel

/-- **The default header mode.**  The same for a create session whose header is stored encoded
    (py7zr's default) or encrypted: the raw header goes through a one-folder compressor of its
    own — any codec stages —, the archive is signature header ++ packed data ++ packed header ++
    EncodedHeader record, and for any decoder of the header folder that inverts what the header
    compressor produced (the one codec hypothesis), the strict reader `Spec.openArchive` accepts
    it — start-header and record CRCs, the record's PackInfo and UnpackInfo with the folder's CRC
    (written since cfa832b), the packed header lying exactly at the end of the data area, the
    decoded header of the declared length and CRC — and finds inside exactly the members written. -/
theorem session_archive_encoded_conforms {σ} (cfg : WConfig σ) (hcfg : HConfig σ) (ms : List WMember) (us : List Nat) (img : Bytes)
    (decode : Spec.SFolder → Bytes → Option Bytes)
    (wfc : WFConfig cfg) (wfm : WFMembers ms) (rs : ReadableSession cfg ms) (wfh : WFHConfig hcfg)
    (hU : unpacksizesOf cfg.methodsMap ((sessionCompress cfg ms).1.chain.map (·.fed)) = some us)
    (husb : ∀ v ∈ us, v < 2 ^ 64)
    (hns : ∀ m ∈ ms, ∀ ch ∈ m.name, ch ≠ 0x5C)
    (hbounds : ∀ raw, writeHeaderRaw true (sessionComps cfg ms us).header 0 = some raw →
      raw.length < 2 ^ 64 ∧ ((sessionCompress cfg ms).1.out ++ (headerCompress hcfg raw).out).length < 2 ^ 64)
    (himgb : img.length < 2 ^ 64)
    (hdec : ∀ raw, writeHeaderRaw true (sessionComps cfg ms us).header 0 = some raw →
      decode (toSFolderCrc (headerFolder hcfg raw)) (headerCompress hcfg raw).out = some raw)
    (h : sessionArchiveEncoded cfg hcfg ms = some img) :
    Spec.openArchive decode img = .ok ((sessionComps cfg ms us).expected, (sessionCompress cfg ms).1.out) ∧
    Spec.members (sessionComps cfg ms us).expected = .ok (expectedMembers ms) :=
  SevenZ.session_archive_encoded_conforms cfg hcfg ms us img decode wfc wfm wfh hU husb hbounds himgb hdec h

/-- non-vacuity: the example session in encoded mode, header "codec" = identity, evaluated in the kernel -/
def exampleHConfig : HConfig Bytes :=
  { coders := [{ method := [0x21], props := some [0x18] }],
    chain := [{ stage := { compress := fun s d => (s, d), flush := fun s => (s, []) }, st := [] }], blocksize := 7 }

example : ((sessionArchiveEncoded exampleConfig exampleHConfig exampleMembers).map
      (fun img => match Spec.openArchive (fun _ b => some b) img with
        | .ok (H, area) => (Spec.members H).toOption.map (fun l => (l.map (fun m => (m.file.name, m.stream)), area))
        | .error _ => none)) ==
    some (some ([(some [100], none), (some [0x1F600, 47, 97], some (0, 0, 3, some 1438416925)), (some [98], some (0, 3, 0, some 0))],
                [1, 2, 3])) := by
  decide +kernel

/-- boolean vectors as written are read back by the strict reader (all-defined shortcut and
    bit field with zero padding), for every vector -/
theorem strict_reader_accepts_boolvector (bs : List Bool) (tail : Bytes) :
    Spec.sBoolList bs.length "v" (writeBools bs true ++ tail) = .ok (bs, tail) :=
  sBoolList_parses bs rfl "v" tail

/-- the pinned size computation (defect F1, repaired): with nine files of which one has a
    time, the Size field is one byte short and the strict reader rejects the header -/
theorem pinned_times_rejected_ce :
    (Spec.sFileProps 5 9 (List.replicate 9 {}) 0 false
      (timesBlock false 0x14 [.val 5, .undef, .undef, .undef, .undef, .undef, .undef, .undef, .undef] ++ [0])).toOption = none ∧
    (Spec.sFileProps 5 9 (List.replicate 9 {}) 0 false
      (timesBlock true 0x14 [.val 5, .undef, .undef, .undef, .undef, .undef, .undef, .undef, .undef] ++ [0])).toOption.isSome = true := by
  decide +kernel

example : timesBlock true 0x14 [.val 5, .undef] =
    [0x14, 11, 0, 0x80, 0, 5, 0, 0, 0, 0, 0, 0, 0] := by decide

end SevenZ.C07
