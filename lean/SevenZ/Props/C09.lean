/-
C09 — Selective extraction equals the restriction of full extraction.
-/
import SevenZ.Lemmas.Reader
import SevenZ.Model.Select
namespace SevenZ.C09
open SevenZ SevenZ.Impl

/-- skip arithmetic, for every archive (any folder structure) and EVERY subset of members:
    what `extract(T)` delivers on a freshly opened archive is exactly the selected part of
    what `extractall` delivers — same folder, same offset, same length for each member —
    wherever the targets lie inside solid blocks and whichever folders they span -/
theorem restriction (sel : Nat → Bool) (a : RArchive) :
    ∃ ss ss' c c',
      extractFolders sel false 0 a.folders (freshCache a) = some (ss, c) ∧
      extractFolders (fun _ => true) false 0 a.folders (freshCache a) = some (ss', c') ∧
      ss = ss'.filter (fun s => sel s.id) :=
  ⟨_, _, _, _, extractFolders_fresh sel a.folders 0, extractFolders_fresh (fun _ => true) a.folders 0,
    by rw [List.filter_eq_self.mpr fun _ _ => rfl]⟩

/-- one target against one member name -/
def hits (recursive : Bool) (name t : Str) : Bool :=
  name == removeTrailingSlash t || (recursive && (removeTrailingSlash t).isPrefixOf name)

/-- selection is "some target hits" -/
theorem selected_eq_any (recursive : Bool) (ts : List Str) (name : Str) :
    selected recursive ts name = ts.any (hits recursive name) := by
  induction ts with
  | nil => cases recursive <;> rfl
  | cons t ts ih =>
    rw [List.any_cons, ← ih]
    cases recursive
    · simp only [selected, hits, List.map_cons, List.contains_cons, Bool.false_and, Bool.or_false,
        Bool.false_eq_true, if_false]
    · simp only [selected, hits, List.map_cons, List.contains_cons, List.any_cons, Bool.true_and, if_true]
      ac_rfl

theorem selected_iff (recursive : Bool) (ts : List Str) (name : Str) :
    selected recursive ts name = true ↔ ∃ t ∈ ts, removeTrailingSlash t = name ∨
      recursive = true ∧ (removeTrailingSlash t).isPrefixOf name = true := by
  simp only [selected_eq_any, List.any_eq_true, hits, Bool.or_eq_true, Bool.and_eq_true, beq_iff_eq,
    eq_comm (a := name)]

/-- selection distributes over the union of target collections: `extract(T ∪ T')` selects
    exactly what `extract(T)` or `extract(T')` selects, nothing more -/
theorem selected_union (recursive : Bool) (ts ts' : List Str) (name : Str) :
    selected recursive (ts ++ ts') name = (selected recursive ts name || selected recursive ts' name) := by
  simp only [selected_eq_any, List.any_append]

/-- no target, nothing selected -/
theorem selected_nil (recursive : Bool) (name : Str) : selected recursive [] name = false := by
  rw [selected_eq_any, List.any_nil]

/-- non-recursive selection is exact-name selection: a member is delivered iff some target,
    its trailing slash removed, equals the member's name -/
theorem nonrecursive_exact (ts : List Str) (name : Str) :
    selected false ts name = true ↔ ∃ t ∈ ts, removeTrailingSlash t = name := by
  simp only [selected_iff, Bool.false_eq_true, false_and, or_false]

/-- recursive selection: a member is delivered iff some normalised target equals it or is a
    string prefix of it (the quantifier's prefix-freedom turns "string prefix" into
    "beneath the directory", `recursive_selects_subtree`) -/
theorem recursive_iff (ts : List Str) (name : Str) :
    selected true ts name = true ↔
      ∃ t ∈ ts, removeTrailingSlash t = name ∨ (removeTrailingSlash t).isPrefixOf name = true := by
  simp only [selected_iff, true_and]

/-- targets "given as list or set": only which names are in the collection matters — order
    and repetition are immaterial -/
theorem selected_set_like (recursive : Bool) (ts ts' : List Str) (name : Str)
    (h : ∀ t, t ∈ ts ↔ t ∈ ts') :
    selected recursive ts name = selected recursive ts' name := by
  rw [Bool.eq_iff_iff]; simp only [selected_iff, h]

/-- names in T that no member equals (and, when recursive, that are not a string prefix of
    a member) do not change what is selected -/
theorem absent_ignored (recursive : Bool) (ts : List Str) (absent name : Str)
    (hne : removeTrailingSlash absent ≠ name)
    (hpre : (removeTrailingSlash absent).isPrefixOf name = false) :
    selected recursive (absent :: ts) name = selected recursive ts name := by
  simp only [selected_eq_any, List.any_cons, hits, hpre, Bool.and_false, Bool.or_false, beq_eq_false_iff_ne.mpr hne.symm,
    Bool.false_or]

/-- a trailing slash on a target is immaterial -/
theorem trailing_slash_immaterial (recursive : Bool) (ts : List Str) (name : Str)
    (h : ∀ t ∈ ts, t.getLast? ≠ some '/') :
    selected recursive (ts.map (· ++ ['/'])) name = selected recursive ts name := by
  have e : (ts.map (· ++ ['/'])).map removeTrailingSlash = ts.map removeTrailingSlash := by
    rw [List.map_map]
    refine List.map_congr_left fun t ht => ?_
    simp [removeTrailingSlash, h t ht]
  simp only [selected, e]

/-- recursive selection under the quantifier's prefix-freedom: a target selects itself and
    exactly the members beneath it -/
theorem recursive_selects_subtree (t name : Str) (ht : t.getLast? ≠ some '/')
    (hfree : t.isPrefixOf name = true → t = name ∨ (t ++ ['/']).isPrefixOf name = true) :
    selected true [t] name = (decide (name = t) || (t ++ ['/']).isPrefixOf name) := by
  have h2 : removeTrailingSlash t = t := if_neg ht
  rw [selected_eq_any, List.any_cons, List.any_nil, Bool.or_false, hits, h2, Bool.true_and, Bool.eq_iff_iff]
  simp only [Bool.or_eq_true, beq_iff_eq, decide_eq_true_eq]
  refine ⟨Or.rec Or.inl fun hp => (hfree hp).imp_left Eq.symm, Or.imp_right fun hq => ?_⟩
  rw [List.isPrefixOf_iff_prefix] at hq ⊢
  exact (List.prefix_append t ['/']).trans hq

example : selected true ["dir/".toList, "nope".toList] "dir/sub/file".toList = true ∧
    selected false ["dir/".toList] "dir/sub/file".toList = false ∧
    selected false ["dir/".toList] "dir".toList = true := by decide +kernel

end SevenZ.C09
