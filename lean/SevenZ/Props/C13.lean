/-
C13 — Extraction results do not depend on scheduling; worker errors reach the caller.
-/
import SevenZ.Lemmas.Shuffle
namespace SevenZ.C13
open SevenZ SevenZ.Impl

/-- a worker that never writes to `out` contributes nothing to it -/
theorem written_of_not_mem (w : List CStep) (out : Nat) (h : out ∉ outputsOf w) : written w out = [] := by
  rw [written, List.flatMap_eq_nil_iff]
  rintro (⟨o, c⟩ | e) hs
  · have ho : o ≠ out := fun e => h (List.mem_filterMap.2 ⟨_, hs, by rw [e]⟩)
    exact if_neg ho
  · rfl

/-- Scheduling independence.  If the workers' outputs are pairwise disjoint (own decoder, own
    file handle, distinct output ids), then under EVERY interleaving of their steps each
    output receives exactly what its own worker wrote, in that worker's order — i.e. the same
    as the sequential run, for any number of workers and any number of steps. -/
theorem interleaving_independent {ws : List (List CStep)} {l : List CStep} (h : Interleave ws l)
    (hdisj : ws.Pairwise (fun a b => ∀ o, o ∈ outputsOf a → o ∉ outputsOf b)) :
    ∀ w ∈ ws, ∀ out ∈ outputsOf w, written l out = written w out := by
  intro w hw out ho
  obtain ⟨pre, post, rfl⟩ := List.append_of_mem hw
  obtain ⟨_, hpost, hpre⟩ := List.pairwise_append.1 hdisj
  -- no other worker writes to `out`, so `Interleave.flatMap_eq` projects `l` onto `w`
  exact h.flatMap_eq _
    (fun v hv => written_of_not_mem v out fun hv' => hpre v hv w (by simp) out hv' ho)
    (fun v hv => written_of_not_mem v out ((List.pairwise_cons.1 hpost).1 v hv out ho))

theorem raisedIn_interleave {ws : List (List CStep)} {l : List CStep} (h : Interleave ws l) (e : Nat) :
    e ∈ raisedIn l ↔ ∃ w ∈ ws, e ∈ raisedIn w := by
  rw [raisedIn, (h.perm.filterMap _).mem_iff, List.filterMap_flatten, List.mem_flatten]
  constructor
  · rintro ⟨_, hm, he⟩
    obtain ⟨w, hw, rfl⟩ := List.mem_map.1 hm
    exact ⟨w, hw, he⟩
  · rintro ⟨w, hw, he⟩
    exact ⟨_, List.mem_map_of_mem hw, he⟩

theorem leastOf_eq_min? (l : List Nat) : leastOf l = l.min? := by
  induction l with
  | nil => rfl
  | cons e es ih => rw [leastOf, ih, List.min?_cons]; cases es.min? <;> rfl

/-- **Which error is raised does not depend on the schedule** (after the repair 07e0074): under any two
    interleavings of the same workers the caller sees the same error — that of the first failing folder in archive
    order — however many folders fail. -/
theorem raised_error_schedule_independent {ws : List (List CStep)} {l1 l2 : List CStep}
    (h1 : Interleave ws l1) (h2 : Interleave ws l2) : afterJoin true l1 = afterJoin true l2 := by
  -- the least element is determined by membership, and membership by the workers
  simp only [afterJoin, if_true, leastOf_eq_min?]
  ext m
  simp only [List.min?_eq_some_iff, raisedIn_interleave h1, raisedIn_interleave h2]

/-- before the repair the first error to reach the queue was raised: two interleavings of the same two failing
    workers gave different errors -/
theorem pinned_error_schedule_dependent_ce :
    afterJoinPinned true [.raise 1, .raise 3] ≠ afterJoinPinned true [.raise 3, .raise 1] ∧
    afterJoin true [.raise 1, .raise 3] = afterJoin true [.raise 3, .raise 1] := by decide +kernel

/-- Worker errors reach the caller (thread mode): if any worker raises, then under every
    interleaving `Worker.extract` raises, and what it raises is an exception some worker raised. -/
theorem errors_surface_threads {ws : List (List CStep)} {l : List CStep} (h : Interleave ws l)
    (w : List CStep) (hw : w ∈ ws) (e : Nat) (he : e ∈ raisedIn w) :
    ∃ e', afterJoin true l = some e' ∧ ∃ w' ∈ ws, e' ∈ raisedIn w' := by
  have hmem : e ∈ raisedIn l := (raisedIn_interleave h e).2 ⟨w, hw, he⟩
  obtain ⟨m, hm⟩ := Option.isSome_iff_exists.1 (List.isSome_min?_of_mem hmem)
  exact ⟨m, by simp only [afterJoin, if_true, leastOf_eq_min?, hm],
    (raisedIn_interleave h m).1 (List.min?_mem hm)⟩

/-- Process mode as pinned: the exception queue is a thread queue that the child processes do
    not share with the parent, so the caller sees nothing (finding F9). -/
theorem mp_error_lost_ce : afterJoin false [.write 0 [1], .raise 7] = none ∧
    afterJoin true [.write 0 [1], .raise 7] = some 7 := by decide +kernel

/-- The executable scheduler only produces interleavings: whenever the schedule runs every
    worker to its end, the resulting step sequence is an `Interleave` of the workers — so the
    theorems above apply to every run the correspondence harness enforces. -/
theorem runSchedule_interleave {α : Type} (ws : List (List α)) (sched : List Nat)
    (hdone : ∀ w ∈ remaining ws sched, w = []) : Interleave ws (runSchedule ws sched) := by
  induction sched generalizing ws with
  | nil =>
    have h := Interleave.flatten ws
    rwa [(List.flatten_eq_nil_iff.2 hdone : ws.flatten = [])] at h
  | cons i rest ih =>
    unfold runSchedule
    unfold remaining at hdone
    split
    · rename_i s w' hi
      rw [hi] at hdone
      exact Interleave.step ws i s w' _ hi (ih _ hdone)
    · rename_i hne
      split at hdone
      · rename_i s w' hi; exact absurd hi (hne s w')
      · exact ih ws hdone

theorem truncateAtRaise_of_no_raise : ∀ w : List CStep, raisedIn w = [] → truncateAtRaise w = w
  | [], _ => rfl
  | .write _ _ :: w, h => by rw [truncateAtRaise, truncateAtRaise_of_no_raise w h]; exact nofun
  | .raise _ :: _, h => absurd h (List.cons_ne_nil _ _)

/-- the sequential path is one particular schedule of the truncated workers when nobody raises -/
theorem sequential_no_raise (ws : List (List CStep)) (h : ∀ w ∈ ws, raisedIn w = []) :
    runSequential ws = ws.flatten := by
  induction ws with
  | nil => rfl
  | cons w ws ih =>
    have ⟨hw, hws⟩ := List.forall_mem_cons.1 h
    rw [runSequential, truncateAtRaise_of_no_raise w hw, hw, List.isEmpty_nil, if_pos rfl, ih hws, List.flatten_cons]

/-- Parallel = sequential on intact archives: under every interleaving each output holds
    exactly what the sequential path delivers to it. -/
theorem parallel_eq_sequential {ws : List (List CStep)} {l : List CStep} (h : Interleave ws l)
    (hdisj : ws.Pairwise (fun a b => ∀ o, o ∈ outputsOf a → o ∉ outputsOf b))
    (hok : ∀ w ∈ ws, raisedIn w = []) :
    ∀ w ∈ ws, ∀ out ∈ outputsOf w, written l out = written (runSequential ws) out := by
  intro w hw out ho
  rw [sequential_no_raise ws hok, interleaving_independent h hdisj w hw out ho,
    interleaving_independent (Interleave.flatten ws) hdisj w hw out ho]

example : Interleave [[CStep.write 0 [1], .write 0 [2]], [.write 1 [9]]] [.write 0 [1], .write 1 [9], .write 0 [2]] :=
  .cons (.cons .nil (.left _ .nil)) (.left _ (.right _ (.left _ .nil)))

end SevenZ.C13
