/-
C06 — Reader conformance.  The assignment of sub-streams to members (py7zr's cursor against the format's
definition, for every layout) and the parse half: py7zr's header reader against the strict reader written from
the format description, production by production, on arbitrary input.
-/
import SevenZ.Model.Assign
import SevenZ.Spec.Format
import SevenZ.Lemmas.Assign
import SevenZ.Lemmas.Refine
import SevenZ.Lemmas.WrittenStreams
import SevenZ.Lemmas.RefineFiles
namespace SevenZ.C06
open SevenZ

/-- what the format assigns, reduced to the slots the implementation model produces -/
def specSlots (flags : List Bool) (nums sizes : List Nat) (crcs : List (Option Nat)) : Option (List Impl.Slot4) :=
  match Spec.assign (flags.map (fun e => ({ emptyStream := e } : Spec.SFile))) nums sizes crcs with
  | .error _ => none
  | .ok ms => some (ms.map (·.stream))

/-- layout: directory between two files of one folder, a folder without streams, a second
    folder — the cursor and the format's definition agree (this layout was misread before
    the repairs F6/F20) -/
theorem interleaved_and_empty_folder_example :
    Impl.assign [false, true, false, true, false] [2, 0, 1] [10, 20, 7] [some 1, none, some 3] =
      specSlots [false, true, false, true, false] [2, 0, 1] [10, 20, 7] [some 1, none, some 3] ∧
    Impl.assign [false, true, false, true, false] [2, 0, 1] [10, 20, 7] [some 1, none, some 3] =
      some [some (0, 0, 10, some 1), none, some (0, 10, 20, none), none, some (2, 0, 7, some 3)] := by
  decide +kernel

/-- Reader conformance of the member/sub-stream assignment, for EVERY layout: whenever the
    format assigns sub-streams to the files of a header (any number of files, any interleaving
    of empty-stream entries, any number of folders including folders without streams, any
    sizes and digests, defined or not), py7zr's cursor (`_real_get_contents`) gives every
    member the same folder, the same offset inside the folder's output, the same size and the
    same digest. -/
theorem assign_refines_spec (files : List Spec.SFile) (nums sizes : List Nat) (crcs : List (Option Nat))
    (ms : List Spec.SMember) (h : Spec.assign files nums sizes crcs = .ok ms) :
    Impl.assign (files.map (·.emptyStream)) nums sizes crcs = some (ms.map (·.stream)) :=
  assign_refines files nums sizes crcs ms h

/-- the format's assignment hands out every sub-stream exactly once, in order: the sizes of
    the members that have a stream are the SubStreams size list (so the refinement above is
    about all of the archive's data, not a prefix of it) -/
theorem spec_assign_uses_all (fuel : Nat) (files : List Spec.SFile) (folder taken off : Nat) (nums sizes : List Nat)
    (crcs : List (Option Nat)) (ms : List Spec.SMember)
    (h : Spec.assignGo fuel files folder taken off nums sizes crcs = .ok ms) :
    (ms.filterMap (·.stream)).map (fun x => x.2.2.1) = sizes :=
  (Spec.assigns_of_assignGo _ _ _ _ _ _ _ _ _ h).uses_all

example : (Spec.assign [{ emptyStream := false }, { emptyStream := true }, { emptyStream := false }] [1, 0, 1] [4, 6] [some 9, none]).toOption.isSome = true := by
  decide +kernel

/-! ### the parse half: py7zr's reader against the reader written from the format description -/

/-- **PackInfo, for every input.** Whenever the strict reader of the format description accepts a PackInfo section
    at the head of a byte string (any PackPos, any number of packed streams, with or without the CRC section, CRCs all
    defined or partially defined), the model of `PackInfo._read` succeeds on the same bytes, stops at the same place
    and returns the same position and sizes. No assumption about who wrote the bytes. -/
theorem reader_refines_spec_packinfo (s : Bytes) (hs : Inp s) (sp : Spec.SPack) (r : Bytes)
    (h : Spec.sPackInfo s = .ok (sp, r)) :
    ∃ ip, Impl.readPackInfo s = .ok (ip, r) ∧ ip.packpos = sp.packpos ∧ ip.packsizes = sp.sizes ∧
      ip.numstreams = sp.sizes.length := by
  obtain ⟨ip, g, a, b, c, _⟩ := sPackInfo_refines hs.1 h
  exact ⟨ip, g, a, b, c⟩

/-- **UnpackInfo (folders), for every input.** Whenever the strict reader accepts an UnpackInfo section — any number
    of folders, each with any chain of simple or complex coders, with or without properties, any bind pairs and packed
    stream indices, unpack sizes, and the folder CRC section absent, all-defined or partially defined — the model of
    `UnpackInfo._read` / `Folder._read` succeeds on the same bytes, stops at the same place and returns, folder by
    folder, the same coders (an id-less coder as id `00`), in/out counts, properties, bind pairs, unpack sizes and CRC
    (`folderOf`). -/
theorem reader_refines_spec_unpackinfo (s : Bytes) (hs : Inp s) (fs : List Spec.SFolder) (r : Bytes)
    (h : Spec.sUnpackInfo s = .ok (fs, r)) :
    Impl.readUnpackInfo s = .ok (fs.map folderOf, r) :=
  (sUnpackInfo_refines hs h).1

/-- the primitives under both: NUMBER and boolean vectors are read alike wherever the strict reader accepts them -/
theorem reader_refines_spec_number (s : Bytes) (hs : Inp s) (w : String) (v : Nat) (r : Bytes)
    (h : Spec.sNumber w s = .ok (v, r)) : Impl.pNumber s = .ok (v, r) :=
  (sNumber_refines hs.1 h).1

theorem reader_refines_spec_boolvector (s : Bytes) (hs : Inp s) (n : Nat) (w : String) (bits : List Bool) (r : Bytes)
    (h : Spec.sBoolList n w s = .ok (bits, r)) : Impl.pBools n true s = .ok (bits, r) :=
  (sBoolList_refines hs.1 h).1

/-- **The SIZE section of SubStreamsInfo, for every input**: where the strict reader accepts the explicit sub-stream
    sizes of folders with any numbers of streams (zero included) and derives each folder's last size from the
    folder's unpack size, py7zr's reader reads the same sizes from the same bytes — these are the member boundaries
    inside solid folders. `OneOut`: each folder has one result stream (py7zr takes the LAST unbound output, the
    description the FIRST; folders with several unbound outputs are outside what either reader can decode). -/
theorem reader_refines_spec_subsizes (ns : List Nat) (fs : List Spec.SFolder) (s : Bytes) (hs : Inp s)
    (h1 : ∀ f ∈ fs, OneOut f) (out : List Nat) (r : Bytes) (h : Spec.sSubSizes ns fs s = .ok (out, r)) :
    Impl.readSubSizes ns (fs.map folderOf) s = .ok (out, r) :=
  (sSubSizes_refines ns fs s out r hs h1 h).1

/-- **The whole StreamsInfo record, for every input.** Whenever the strict reader accepts a StreamsInfo (PackInfo,
    UnpackInfo and SubStreamsInfo each present or absent; NumUnpackStream explicit or omitted; SIZE section present or
    absent; digest section present or absent, with folder CRCs or not) whose folders have one result stream each,
    the model of `StreamsInfo.read` — with its count guard `sum(NumUnpackStream) <= 8 * header size`, which the proof
    shows never fires on an accepted record — succeeds on the same bytes, stops at the same place and returns the same
    pack position and sizes, the same folders (`folderOf`), the same stream counts per folder and the same
    sub-stream sizes (explicit where the SIZE section exists; where it does not, no folder has more than one stream
    and py7zr derives the sizes from the folders later). Only the distribution of the digests is not compared (py7zr
    keeps no folder CRC as a member CRC when the digest section is absent). With `assign_refines_spec` this is reader
    conformance of everything that decides which bytes a member gets, as a theorem over all inputs. -/
theorem reader_refines_spec_streams (total : Nat) (s : Bytes) (hs : Inp s) (hst : s.length ≤ total)
    (ss : Spec.SStreams) (r : Bytes) (hone : ∀ f ∈ ss.folders, OneOut f) (h : Spec.sStreams s = .ok (ss, r)) :
    ∃ st, Impl.readStreams total s = .ok (st, r) ∧
      (∀ sp, ss.pack = some sp → ∃ ip, st.packinfo = some ip ∧ ip.packpos = sp.packpos ∧ ip.packsizes = sp.sizes) ∧
      (ss.pack = none → st.packinfo = none) ∧
      st.folders.getD [] = ss.folders.map folderOf ∧
      (∀ x, st.substreams = some x → x.numUnpack = ss.numUnpack ∧
        (x.unpacksizes = some ss.subSizes ∨ (x.unpacksizes = none ∧ ss.numUnpack.any (· > 1) = false))) ∧
      (st.substreams = none → ss.numUnpack = ss.folders.map (fun _ => 1)) := by
  obtain ⟨st, a, b, c, d, e, f, _⟩ := sStreams_refines hs hst hone h
  exact ⟨st, a, b, c, d, e, f⟩

/-- **Time and attribute vectors, for every input** (the bodies of the CTime / ATime / MTime / Attributes properties of
    FilesInfo): where the strict reader accepts a BooleanList + external byte + the values of the defined entries —
    all defined, partially defined or none defined — py7zr's reader reads the same bytes and stores, entry by entry,
    the value or "undefined". -/
theorem reader_refines_spec_times (k : Impl.TimeKind) (w : String) (files : List FileEntry) (vals : List (Option Nat))
    (s r : Bytes) (hs : Inp s) (h : Spec.sOptVector files.length 8 w s = .ok (vals, r)) :
    (do
      let defined ← Impl.pBools files.length true
      let ext ← Impl.read1
      if ext ≠ some 0 then Impl.fail .malformed else Impl.setTimes k files defined : P (List FileEntry)) s =
      .ok ((files.zip vals).map (fun (f, v) => Impl.setTime k f (slotOfOpt v)), r) :=
  let ⟨_, g, e, _⟩ := (sOptVector_times_r TailClosed.inp k w files).run hs h
  e.1 ▸ g

theorem reader_refines_spec_attrs (w : String) (files : List FileEntry) (vals : List (Option Nat))
    (s r : Bytes) (hs : Inp s) (h : Spec.sOptVector files.length 4 w s = .ok (vals, r)) :
    (do
      let defined ← Impl.pBools files.length true
      let ext ← Impl.read1
      if ext = some 0 then Impl.setAttrs files defined else Impl.fail .unsupported : P (List FileEntry)) s =
      .ok ((files.zip vals).map (fun (f, v) => { f with attributes := slotOfOpt v }), r) :=
  let ⟨_, g, e, _⟩ := (sOptVector_attrs_r TailClosed.inp w files).run hs h
  e.1 ▸ g

/-- the bit fields of FilesInfo (EmptyStream, EmptyFile): where the strict reader accepts `n` bits — most significant
    first, padding bits zero — py7zr's bit loop reads the same bits from the same bytes -/
theorem reader_refines_spec_bitfield (n : Nat) (w : String) (s : Bytes) (hs : Inp s) (bits : List Bool) (r : Bytes)
    (h : Spec.sBitField n w s = .ok (bits, r)) : Impl.readBits n s = some (bits, r) :=
  (sBitField_refines hs.1 h).1

/-- **The next-header buffer as a whole, when it is an EncodedHeader record.** Every byte string the strict reader
    accepts as an EncodedHeader record (id 0x17, a StreamsInfo, nothing behind it) is recognised as one by the model
    of `Header._read`, with the same position and size of the packed header and the same folder — whoever wrote
    it: this is the step that decides WHERE py7zr looks for the packed header and WITH WHICH CODERS it decodes it. -/
theorem reader_refines_spec_encoded_record (buf : Bytes) (hb : Inp buf) (ss : Spec.SStreams)
    (hone : ∀ f ∈ ss.folders, OneOut f) (h : Spec.readTop buf = .ok (.encoded ss)) :
    ∃ st, Impl.readNextHeader buf = .ok (.encoded st) ∧
      (∀ sp, ss.pack = some sp → ∃ ip, st.packinfo = some ip ∧ ip.packpos = sp.packpos ∧ ip.packsizes = sp.sizes) ∧
      st.folders.getD [] = ss.folders.map folderOf := by
  obtain ⟨_, e⟩ | ⟨_, _, _, _, _, e⟩ | ⟨rest, _, rfl, hs, e⟩ := readTop_inv h <;> cases e
  obtain ⟨st, g, a, _, c, _, _, _⟩ := sStreams_refines (total := (0x17 :: rest).length)
    (TailClosed.inp.suffix hb (List.suffix_cons _ _)) (Nat.le_succ _) hone hs
  exact ⟨st, by simp only [Impl.readNextHeader, g, Except.map], a, c⟩

/-- **The Names property, for every input**: where the strict reader splits the body of the Names property into one
    name per member (UTF-16-LE, zero-terminated, the body used up exactly), py7zr's per-member loop
    (`read_utf16` + the backslash rewrite) reads the same names from the same bytes and leaves nothing over — for
    names of fewer than 32768 characters (`read_utf16` stops after 65535 units). -/
theorem reader_refines_spec_names (files : List FileEntry) (names : List (List Nat)) (fuel : Nat) (body : Bytes)
    (hb : IsBytes body) (hl : files.length = names.length) (hlen : ∀ cs ∈ names, 2 * cs.length < maxLength)
    (h : Spec.splitNames fuel body [] = .ok names) :
    Impl.setNames files body = .ok ((files.zip names).map (fun (f, cs) => { f with filename := some (Impl.fixSlash cs) }), []) :=
  setNames_refines files names fuel body hb hl hlen h

/-- **py7zr never misreads a header the format defines.** For every next-header buffer (fewer than 131072 bytes, so
    that no name exceeds `read_utf16`'s limit; folders with one result stream) that the strict reader accepts as a
    raw Header — any StreamsInfo, any FilesInfo with its properties in any order: EmptyStream, EmptyFile, Names,
    CTime / ATime / MTime, Attributes, Dummy padding, also Anti and StartPos — the model of `Header._read` either
    returns a header object that agrees with the strict reader's (`HeaderRel`: pack position and sizes, folders,
    stream counts, sub-stream sizes, and member by member the empty-stream flag, the name with backslashes rewritten,
    the three times and the attribute word, defined or not) or raises (py7zr supports neither Anti nor StartPos). It
    never succeeds with other values. With `assign_refines_spec` and the codec assumptions this is the whole of
    C06's "read as the format defines it" at header level, for every input rather than for the layouts explored. -/
theorem reader_never_misreads_header (buf : Bytes) (hb : Inp buf) (hshort : buf.length < 2 * maxLength)
    (sh : Spec.SHeader) (hone : ∀ ss, sh.streams = some ss → ∀ f ∈ ss.folders, OneOut f)
    (h : Spec.readTop buf = .ok (.raw sh)) :
    (∃ H, Impl.readNextHeader buf = .ok (.raw H) ∧ HeaderRel sh H) ∨ (∃ e, Impl.readNextHeader buf = .error e) := by
  obtain ⟨_, e⟩ | ⟨rest, _, r, rfl, hh, e⟩ | ⟨_, _, _, _, e⟩ := readTop_inv h <;> cases e
  rcases sHeaderBody_safe (total := (0x01 :: rest).length) (TailClosed.inp.suffix hb (List.suffix_cons _ _)) (Nat.le_succ _)
    (Nat.lt_of_succ_lt hshort) hone hh with ⟨H, g, hr⟩ | ⟨e, g⟩
  · exact .inl ⟨H, by simp only [Impl.readNextHeader, g, Except.map], hr⟩
  · exact .inr ⟨e, by simp only [Impl.readNextHeader, g, Except.map]⟩

/-- **Header parse and cursor together.** When py7zr's reader model has read a header the strict reader accepts
    (`HeaderRel`, from `reader_never_misreads_header`) and the SubStreamsInfo carries explicit sizes, the cursor of
    `_real_get_contents` run on what py7zr's reader returned — its stream counts, its sizes, its empty-stream flags —
    gives every member the folder, offset and size the FORMAT assigns to it (`Spec.members`), digests as the format
    assigns them. Parsing and assignment are thereby one statement about arbitrary accepted input. -/
theorem reader_assigns_as_format (sh : Spec.SHeader) (H : Header) (hr : HeaderRel sh H) (ss : Spec.SStreams)
    (hs : sh.streams = some ss) (hf : sh.hasFiles = true) (ms : List Spec.SMember) (hm : Spec.members sh = .ok ms) :
    ∃ st fi, H.mainStreams = some st ∧ H.filesInfo = some fi ∧
      ∀ x sizesI, st.substreams = some x → x.unpacksizes = some sizesI →
        Impl.assign (fi.files.map (·.emptystream)) x.numUnpack sizesI ss.subCrcs = some (ms.map (·.stream)) := by
  obtain ⟨h1, _, h3, _⟩ := hr
  obtain ⟨st, hst, _, _, hsub, _⟩ := h1 ss hs
  obtain ⟨fi, hfi, hrel⟩ := h3 hf
  refine ⟨st, fi, hst, hfi, ?_⟩
  intro x sizesI hx hsz
  obtain ⟨hn, hz⟩ := hsub x hx
  have hsizes : sizesI = ss.subSizes := by
    rcases hz with h | h
    · rw [hsz] at h; exact Option.some.inj h
    · rw [hsz] at h; simp at h
  unfold Spec.members at hm
  simp only [hs] at hm
  have := assign_refines_spec sh.files ss.numUnpack ss.subSizes ss.subCrcs ms hm
  rw [FilesRel.flags hrel, hn, hsizes]
  exact this

-- non-vacuity: a raw header with one stream-less member named "a" (Names, then EmptyStream) is accepted by the strict
-- reader and read by py7zr's model
example : (match Spec.readTop [0x01, 0x05, 0x01, 0x11, 0x05, 0x00, 0x61, 0x00, 0x00, 0x00, 0x0E, 0x01, 0x80, 0x00, 0x00] with
      | .ok (.raw sh) => sh.files.map (fun f => (f.name, f.emptyStream)) | _ => []) = [(some [0x61], true)] ∧
    (match Impl.readNextHeader [0x01, 0x05, 0x01, 0x11, 0x05, 0x00, 0x61, 0x00, 0x00, 0x00, 0x0E, 0x01, 0x80, 0x00, 0x00] with
      | .ok (.raw H) => (H.filesInfo.map (fun fi => fi.files.map (fun f => (f.filename, f.emptystream)))) | _ => none) =
      some [(some [0x61], true)] := by decide +kernel

/-- every folder whose coders are chained linearly without bind pairs to spare — one coder, no bind pair — has one
    result (the shape of every folder of a one-coder chain) -/
theorem oneOut_single (f : Spec.SFolder) (hb : f.bindpairs = []) (hu : f.unpackSizes.length ≤ 1) : OneOut f := by
  intro i j hi hj _ _; omega

/-- every linearly chained folder — coder i+1 fed by coder i, as py7zr and 7-Zip write their simple chains, of any
    length — has exactly one result stream: the hypothesis `OneOut` of the theorems above holds for them -/
theorem oneOut_linear (f : Spec.SFolder) (hb : f.bindpairs = linearPairs f.unpackSizes.length) : OneOut f := by
  intro i j hi hj h1 h2
  rw [hb, linearPairs_out] at h1 h2
  simp only [Bool.not_eq_true', decide_eq_false_iff_not] at h1 h2
  omega

-- non-vacuity: an UnpackInfo with two folders (Copy; BCJ2-like complex coder omitted), folder CRCs partially defined
example : (Spec.sUnpackInfo [0x0B, 0x02, 0x00, 0x01, 0x01, 0x00, 0x01, 0x21, 0x21, 0x01, 0x18,
      0x0C, 0x05, 0x07, 0x0A, 0x00, 0x80, 0x78, 0x56, 0x34, 0x12, 0x00, 0xEE]).toOption.map (fun x => (x.1.length, x.2)) = some (2, [0xEE]) ∧
    Inp [0x0B, 0x02, 0x00, 0x01, 0x01, 0x00, 0x01, 0x21, 0x21, 0x01, 0x18,
      0x0C, 0x05, 0x07, 0x0A, 0x00, 0x80, 0x78, 0x56, 0x34, 0x12, 0x00, 0xEE] := by
  refine ⟨by decide +kernel, ?_, by decide⟩
  show ∀ b ∈ _, b < 256
  decide

end SevenZ.C06
