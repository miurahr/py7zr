/-
C02 — Directory tree round trip with metadata (attribute word and timestamp arithmetic).
-/
import SevenZ.Lemmas.Attr
import Mathlib.Tactic.Linarith
import Mathlib.Tactic.NormNum
namespace SevenZ.C02
open SevenZ SevenZ.Impl

/-- kind and permission bits survive the attribute word: every kind, every mode 0..0o7777 -/
theorem attr_roundtrip (mode : Nat) (h : mode < 4096) :
    decodeAttr (encodeAttr .file mode) = (.file, some mode) ∧
    decodeAttr (encodeAttr .dir mode) = (.dir, some mode) ∧
    decodeAttr (encodeAttr .symlink mode) = (.symlink, some mode) :=
  ⟨decode_encodeAttr _ mode h, decode_encodeAttr _ mode h, decode_encodeAttr _ mode h⟩

/-- the attribute word written for any kind and any mode 0..0o7777 fits the format's UINT32
    attribute field — the hypothesis under which `C17.attrs_vector_roundtrip` stores it
    exactly, so kind and mode survive the header as well as the word -/
theorem attr_fits_u32 (k : Kind) (mode : Nat) (h : mode < 4096) : encodeAttr k mode < 2 ^ 32 :=
  encodeAttr_lt k mode h

/-- different kinds or different permission bits never share an attribute word -/
theorem attr_injective (k k' : Kind) (m m' : Nat) (h : m < 4096) (h' : m' < 4096)
    (e : encodeAttr k m = encodeAttr k' m') : k = k' ∧ m = m' := by
  have d := congrArg decodeAttr e
  rw [decode_encodeAttr k m h, decode_encodeAttr k' m' h'] at d
  exact ⟨(Prod.mk.inj d).1, Option.some.inj (Prod.mk.inj d).2⟩

/-- Timestamp envelope.  `from_datetime` computes `int((t + A) · 10^7)` and `totimestamp`
    `n / 10^7 − A` in binary64 (A = 11644473600; the bound holds for any A).  For 0 ≤ t ≤ 4102444800 (year 2100) the
    operands stay below 2^34 resp. 2^58, so round-to-nearest errs by at most 2^-20 s on the
    sum and on the quotient, 16 ticks on the product and 2^-22 s on the final difference; the
    truncation loses less than one tick.  Under exactly these rounding bounds (the standard
    model of IEEE-754 arithmetic; validated on sampled timestamps by the check) the round trip
    is within 5 microseconds. -/
theorem filetime_roundtrip_envelope (t a b n c r A : ℚ)
    (ha : |a - (t + A)| ≤ 1 / 2 ^ 20)                 -- fl(t + A)
    (hb : |b - a * 10000000| ≤ 16)                    -- fl(a · 1e7)
    (hn : n ≤ b ∧ b < n + 1)                          -- int(b)
    (hc : |c - n / 10000000| ≤ 1 / 2 ^ 20)            -- fl(n / 1e7)
    (hr : |r - (c - A)| ≤ 1 / 2 ^ 22) :               -- fl(c − A)
    |r - t| ≤ 5 / 1000000 := by
  obtain ⟨ha1, ha2⟩ := abs_le.1 ha
  obtain ⟨hb1, hb2⟩ := abs_le.1 hb
  obtain ⟨hn1, hn2⟩ := hn
  obtain ⟨hc1, hc2⟩ := abs_le.1 hc
  obtain ⟨hr1, hr2⟩ := abs_le.1 hr
  exact abs_le.2 ⟨by linarith only [ha1, hb1, hn2, hc1, hr1], by linarith only [ha2, hb2, hn1, hc2, hr2]⟩

example : encodeAttr .symlink 0o777 = 0xA1FF8420 := by decide
example : (|(1000:ℚ) + 11644473600 - (1000 + 11644473600)| ≤ 1 / 2 ^ 20) := by norm_num

end SevenZ.C02
