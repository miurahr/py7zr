/-
C20 — Streaming in bounded memory (bookkeeping part): what the extraction path itself holds
on to, for every decoder.
-/
import SevenZ.Lemmas.Decode
import SevenZ.Model.Stages
namespace SevenZ.C20
open SevenZ SevenZ.Impl

/-- a call never returns more than `max_length` bytes … -/
theorem chunk_bound {σ} (ch : Chain σ) (cfg : DecCfg) (st : DecState σ) (m : Nat) :
    (decompress ch cfg st m).1.length ≤ m :=
  decompress_len_le ch cfg st m

/-- … with a chain that honours `max_length` (lzma, bz2, PPMd last) nothing is ever carried
    over between calls … -/
theorem honouring_chain_buffers_nothing {σ} (ch : Chain σ) (cfg : DecCfg) (st : DecState σ) (m : Nat)
    (hon : ∀ s d k, (ch.dec s d k).2.length ≤ k) (hb : st.buf = []) :
    (decompress ch cfg st m).2.2.buf = [] :=
  buf_stays_empty ch cfg st m hon hb

/-- … and with any chain the carry-over buffer holds at most one call's decoder output:
    memory is bounded by what one input block expands to, never by the declared size -/
theorem buffer_le_one_block_output {σ} (ch : Chain σ) (cfg : DecCfg) (st : DecState σ) (m : Nat) :
    (decompress ch cfg st m).2.2.buf.length ≤ max st.buf.length (decompress ch cfg st m).2.1.length :=
  buf_le_output ch cfg st m

/-- at most one block of packed input is read per call -/
theorem input_read_le_block {σ} (cfg : DecCfg) (st : DecState σ) :
    (readData cfg st).1.length ≤ cfg.blockSize := by
  rw [readData_eq]
  exact Nat.le_trans (List.length_take_le _ _) (Nat.min_le_right _ _)

/-- no loss, no duplication across the carry-over buffer, for every request sequence -/
theorem decompress_concat {σ} (ch : Chain σ) (cfg : DecCfg) (ms : List Nat) (st : DecState σ) :
    (runCalls ch cfg st ms).1.flatten ++ (runCalls ch cfg st ms).2.2.live =
      st.live ++ (runCalls ch cfg st ms).2.1.flatten :=
  SevenZ.decompress_concat ch cfg ms st

/-- The claim "bounded by a fixed budget for every codec" is *false* of the code: a decoder
    that ignores `max_length` (Deflate, ZStandard, Brotli, Copy…) may hand back everything a
    block expands to, and all of it is buffered.  Model witness: one call, request 1 byte,
    decoder output 100 bytes ⇒ 99 bytes carried over. -/
theorem ignoring_decoder_ce :
    (decompress ({ dec := fun s _ _ => (s, List.replicate 100 0) } : Chain Unit)
      { inputSize := 10, blockSize := 4 } { chain := (), src := [1, 2, 3, 4] } 1).2.2.buf.length = 99 := by
  decide +kernel

/-- Both bounds by one induction.  A step on `s :: rest` runs the rest of the chain on some
    `out` and puts some `n` in front of its lengths; whether `s` is live or finished, both are
    at most `k`.  The empty chain hands back its input. -/
theorem stagesStep_bounded {σ} (dec : σ → Bytes → Nat → σ × Bytes) (hon : ∀ s d k, (dec s d k).2.length ≤ k)
    (k : Nat) (sts : List (StageSt σ)) : ∀ (data res : Bytes) (lens : List Nat) (sts' : List (StageSt σ)),
    stagesStep dec sts data k = some (res, lens, sts') →
      (∀ n ∈ lens, n ≤ k) ∧ (sts ≠ [] ∨ data.length ≤ k → res.length ≤ k) := by
  induction sts with
  | nil => intro data res lens sts' h; cases h; exact ⟨nofun, fun h => h.resolve_left (· rfl)⟩
  | cons s rest ih =>
    intro data res lens sts' h
    have ⟨out, n, lens', sts'', hrec, hl, hn, hout⟩ : ∃ out n lens' sts'',
        stagesStep dec rest out k = some (res, lens', sts'') ∧ lens = n :: lens' ∧ n ≤ k ∧ out.length ≤ k := by
      simp only [stagesStep] at h
      split at h
      · split at h
        · next heq =>
          cases h
          exact ⟨_, _, _, _, heq, rfl, hon .., Nat.le_trans (List.length_take_le' ..) (hon ..)⟩
        · cases h
      split at h
      · split at h
        · next heq => cases h; exact ⟨_, _, _, _, heq, rfl, Nat.zero_le _, Nat.zero_le _⟩
        · cases h
      · cases h
    have ⟨h1, h2⟩ := ih out res lens' sts'' hrec
    exact ⟨hl ▸ List.forall_mem_cons.2 ⟨hn, h1⟩, fun _ => h2 (.inr hout)⟩

/-- Every stage of the coder chain is held to the caller's `max_length`: when each decoder
    honours the limit it is given, no stage of `_decompress` — first, middle or last — returns
    more than `max_length` bytes in one call, for chains of any length.  (A chain that limits
    only its last stage lets an earlier decompressor expand a whole input block at once.) -/
theorem every_stage_bounded {σ} (dec : σ → Bytes → Nat → σ × Bytes) (hon : ∀ s d k, (dec s d k).2.length ≤ k)
    (sts : List (StageSt σ)) (data : Bytes) (k : Nat) (res : Bytes) (lens : List Nat) (sts' : List (StageSt σ))
    (h : stagesStep dec sts data k = some (res, lens, sts')) : ∀ n ∈ lens, n ≤ k :=
  (stagesStep_bounded dec hon k sts data res lens sts' h).1

/-- and the result handed back is bounded too (non-empty chain whose last stage is live or finished) -/
theorem stages_result_bounded {σ} (dec : σ → Bytes → Nat → σ × Bytes) (hon : ∀ s d k, (dec s d k).2.length ≤ k)
    (sts : List (StageSt σ)) (hne : sts ≠ []) (data : Bytes) (k : Nat) (res : Bytes) (lens : List Nat) (sts' : List (StageSt σ))
    (h : stagesStep dec sts data k = some (res, lens, sts')) : res.length ≤ k :=
  (stagesStep_bounded dec hon k sts data res lens sts' h).2 (.inl hne)

example : (∀ s d k, (({ dec := fun s _ k => (s, List.replicate k 7) } : Chain Unit).dec s d k).2.length ≤ k) := by
  intro s d k; simp

end SevenZ.C20
