/-
py7zr's own reader (`Impl.readFilesInfo`) on the FilesInfo section py7zr's writer emits: the
property loop of `FilesInfo._read` turn by turn, and the composition.
-/
import SevenZ.Lemmas.ImplProps
import SevenZ.Lemmas.WrittenFiles
namespace SevenZ
open Impl

/-- `setTimes k` and `setAttrs` are the same loop: a value for each defined entry, `None` for the others -/
theorem setSlots_parses {w : Nat} {set : FileEntry → Slot Nat → FileEntry}
    {go : List FileEntry → List Bool → P (List FileEntry)} (h0 : go [] [] = pure [])
    (hs : ∀ f fs d ds, go (f :: fs) (d :: ds) =
      (if d then (do let t ← pFixed w; pure (Slot.val t)) else pure Slot.undef) >>= fun v =>
        go fs ds >>= fun rest => pure (set f v :: rest)) :
    ∀ (files : List FileEntry) (slots : List (Slot Nat)), slots.length = files.length →
      (∀ s ∈ slots, ∀ t, s = .val t → t < 256 ^ w) →
      Parses (go files (slots.map Slot.isVal)) (slots.flatMap (slotBytes w))
        ((files.zip slots).map fun (f, s) => set f (normSlot s))
  | [], [], _, _ => h0 ▸ .pure _
  | [], _ :: _, hl, _ => by simp at hl
  | _ :: _, [], hl, _ => by simp at hl
  | f :: fs, s :: ss, hl, hv => by
    have ih := setSlots_parses h0 hs fs ss (by simpa using hl) fun x hx => hv x (List.mem_cons_of_mem _ hx)
    rw [List.map_cons, hs, List.flatMap_cons]
    refine .bind (v := normSlot s) ?_ (.bind_nil ih (.pure _))
    cases s with
    | val t => exact .if_pos rfl (.bind_nil (pFixed_parses (hv _ List.mem_cons_self t rfl)) (.pure _))
    | absent => exact .if_neg (by decide) (.pure _)
    | undef => exact .if_neg (by decide) (.pure _)

theorem impl_times_step (fuel n ne : Nat) (fi : FilesInfo) (slots : List (Slot Nat))
    (hlen : slots.length = fi.files.length) (hn : slots.length < 2 ^ 32)
    (hv : ∀ s ∈ slots, ∀ t, s = .val t → t < 256 ^ 8) :
    ParsesTo (readFileProps (fuel + 1) n fi ne) (timesBlock true 0x14 slots)
      (readFileProps fuel n
        { fi with files := (fi.files.zip slots).map (fun (f, s) => setTime .m f (normSlot s)) } ne) := by
  have h63 := vectorBody_lt (Nat.le_refl 8) slots hn
  rw [timesBlock_eq, readFileProps]
  refine .bind (read1_parses _) <| .if_neg (by decide) <| .bind (pNumber_parses (Nat.lt_trans h63 (by decide))) <|
    .if_neg (Nat.not_le.2 h63) <| .if_neg (by decide) <| .bind_nil (readBytes_parses _ rfl) <|
    .bind_nil (onBuffer_parses ?_) (.refl _)
  exact .bind (pBools_parses _ true (by simpa using hlen)) <| .bind (read1_parses _) <| .if_neg (fun h => h rfl) <|
    setSlots_parses (set := setTime .m) rfl (fun _ _ _ _ => rfl) fi.files slots hlen hv

theorem impl_attrs_step (fuel n ne : Nat) (fi : FilesInfo) (slots : List (Slot Nat))
    (hlen : slots.length = fi.files.length) (hnf : n = fi.files.length) (hn : slots.length < 2 ^ 32)
    (hv : ∀ s ∈ slots, ∀ t, s = .val t → t < 256 ^ 4) :
    ParsesTo (readFileProps (fuel + 1) n fi ne) (attrsBlock true slots)
      (readFileProps fuel n
        { fi with files := (fi.files.zip slots).map (fun (f, s) => { f with attributes := normSlot s }) } ne) := by
  have h63 := vectorBody_lt (by decide : 4 ≤ 8) slots hn
  rw [attrsBlock_eq, readFileProps]
  refine .bind (read1_parses _) <| .if_neg (by decide) <| .bind (pNumber_parses (Nat.lt_trans h63 (by decide))) <|
    .if_neg (Nat.not_le.2 h63) <| .if_neg (by decide) <| .bind_nil (readBytes_parses _ rfl) <|
    .bind_nil (onBuffer_parses ?_) (.refl _)
  exact .bind (pBools_parses _ true (by simp [hlen, hnf])) <| .bind (read1_parses _) <| .if_pos rfl <|
    setSlots_parses (set := fun f v => { f with attributes := v }) rfl (fun _ _ _ _ => rfl) fi.files slots hlen hv

theorem readFileProps_end (n : Nat) (st : FilesInfo) (ne : Nat) : LoopParses (readFileProps · n st ne) [0x00] st
  | fuel + 1, _ => by
    show Parses (readFileProps (fuel + 1) n st ne) _ _
    rw [readFileProps]
    exact .bind_nil (read1_parses _) (.if_pos rfl (.pure _))

theorem impl_emptystream_step (fuel n ne : Nat) (st : FilesInfo) (es : List Bool) (hlen : es.length = n)
    (hn : n < 2 ^ 32) :
    ParsesTo (readFileProps (fuel + 1) n st ne) ([0x0E] ++ writeNumber (bitsToBytes n) ++ writeBools es false)
      (readFileProps fuel n { st with files := (st.files.zip es).map (fun (f, e) => { f with emptystream := e }) }
        (ne + (es.filter id).length)) := by
  have hsz : bitsToBytes n < 2 ^ 63 := by simp only [bitsToBytes]; omega
  rw [List.append_assoc, readFileProps]
  exact .bind (read1_parses _) <| .if_neg (by decide) <| .bind (pNumber_parses (Nat.lt_trans hsz (by decide))) <|
    .if_neg (Nat.not_le.2 hsz) <| .if_neg (by decide) <|
    .bind_nil (readBytes_parses _ (by rw [writeBools_length, hlen])) <|
    .bind_nil (onBuffer_parses (pBools_parses es false hlen)) (.refl _)

theorem impl_dummy_step (fuel n ne : Nat) (st : FilesInfo) (k : Nat) (hk : k < 0x80) :
    ParsesTo (readFileProps (fuel + 1) n st ne) ([0x19, k] ++ List.replicate k 0) (readFileProps fuel n st ne) := by
  have hw : [0x19, k] = [0x19] ++ writeNumber k := by simp [writeNumber, hk]
  have h63 : k < 2 ^ 63 := Nat.lt_trans hk (by decide)
  rw [hw, List.append_assoc, readFileProps]
  exact .bind (read1_parses _) <| .if_neg (by decide) <| .bind (pNumber_parses (Nat.lt_trans h63 (by decide))) <|
    .if_neg (Nat.not_le.2 h63) <| .if_pos rfl <| .bind_nil (readBytes_parses _ List.length_replicate) (.refl _)

theorem setNames_parses : ∀ (files : List FileEntry) (names : List (List Nat)), names.length = files.length →
    (∀ nm ∈ names, ∀ c ∈ nm, IsScalar c) → (∀ nm ∈ names, (nm.flatMap unitsOf).length < maxLength) →
    Parses (setNames files) (names.flatMap writeUtf16)
      ((files.zip names).map (fun (f, nm) => { f with filename := some (fixSlash nm) }))
  | [], [], _, _, _ => .pure _
  | [], _ :: _, hl, _, _ => by simp at hl
  | _ :: _, [], hl, _, _ => by simp at hl
  | f :: fs, nm :: nms, hl, hs, hm => by
    have h1 : Parses pUtf16Name (writeUtf16 nm) (fixSlash nm) := .of_ok fun rest => by
      simp [pUtf16Name, utf16_roundtrip nm (hs nm List.mem_cons_self) (hm nm List.mem_cons_self) rest]
    rw [List.flatMap_cons]
    exact .bind h1 <| .bind_nil (setNames_parses fs nms (by simpa using hl)
      (fun x hx => hs x (List.mem_cons_of_mem _ hx)) (fun x hx => hm x (List.mem_cons_of_mem _ hx))) (.pure _)

theorem impl_names_step (fuel n ne : Nat) (st : FilesInfo) (entries : List FileEntry)
    (names : List (List Nat)) (hnames : entries.filterMap (·.filename) = names) (hne : names ≠ [])
    (hlen : names.length = st.files.length) (hs : ∀ nm ∈ names, ∀ c ∈ nm, IsScalar c)
    (hm : ∀ nm ∈ names, (nm.flatMap unitsOf).length < maxLength)
    (hsize : (names.map (fun n => 2 * (n.flatMap unitsOf).length + 2)).sum + 1 < 2 ^ 63) :
    ParsesTo (readFileProps (fuel + 1) n st ne) (namesBlock entries)
      (readFileProps fuel n
        { st with files := (st.files.zip names).map (fun (f, nm) => { f with filename := some (fixSlash nm) }) } ne) := by
  obtain ⟨hblock, hblen⟩ := namesBlock_eq entries names hnames hne
  rw [hblock, readFileProps]
  exact .bind (read1_parses _) <| .if_neg (by decide) <| .bind (pNumber_parses (Nat.lt_trans hsize (by decide))) <|
    .if_neg (Nat.not_le.2 hsize) <| .if_neg (by decide) <| .bind_nil (readBytes_parses _ hblen) <|
    .bind_nil (onBuffer_parses (.bind (read1_parses _) <| .if_pos rfl <| setNames_parses st.files names hlen hs hm))
      (.refl _)

/-- what `FilesInfo._read` reconstructs of one member record -/
def readBackFile (e : FileEntry) : FileEntry :=
  { emptystream := e.emptystream, filename := some (fixSlash (nameOf e)), mtime := normSlot e.mtime,
    attributes := normSlot e.attributes }

/-- hypotheses of the reader-side theorem beyond `WFFiles`: py7zr's reader gives up on names
    of 65536 UTF-16 units or more, and sizes must stay below the signed 64-bit range it seeks with -/
structure ReadableFiles (fi : FilesInfo) : Prop where
  wf : WFFiles fi
  nameLen : ∀ e ∈ fi.files, ((nameOf e).flatMap unitsOf).length < maxLength
  namesSize63 : ((fi.files.map nameOf).map (fun n => 2 * (n.flatMap unitsOf).length + 2)).sum + 1 < 2 ^ 63

theorem impl_files_tail {fi : FilesInfo} (rf : ReadableFiles fi) (pos ne : Nat) (g : FileEntry → FileEntry) :
    LoopParses (readFileProps · fi.files.length { files := fi.files.map g, emptyfiles := [] } ne)
      (padBlock pos ++ (namesBlock fi.files ++ (timesBlock true 0x14 (fi.files.map (·.mtime)) ++
        (attrsBlock true (fi.files.map (·.attributes)) ++ [0x00]))))
      { files := fi.files.map fun e => { g e with filename := some (fixSlash (nameOf e)), mtime := normSlot e.mtime,
                                                   attributes := normSlot e.attributes },
        emptyfiles := [] } := by
  have wf := rf.wf
  have hlast : ∀ g : FileEntry → FileEntry,
      LoopParses (readFileProps · fi.files.length { files := fi.files.map g, emptyfiles := [] } ne)
        (timesBlock true 0x14 (fi.files.map (·.mtime)) ++ (attrsBlock true (fi.files.map (·.attributes)) ++ [0x00]))
        { files := fi.files.map fun e => { g e with mtime := normSlot e.mtime, attributes := normSlot e.attributes },
          emptyfiles := [] } := fun g => by
    refine .step (fun fuel => impl_times_step fuel _ ne _ _ (by simp) (by simpa using wf.count)
      (List.forall_mem_map.2 wf.mtimes)) (length_pos_of_eq (timesBlock_eq _ _)) ?_
    rw [zip_map_map]
    refine .step (fun fuel => impl_attrs_step fuel _ ne _ _ (by simp) (by simp) (by simpa using wf.count)
      (List.forall_mem_map.2 wf.attrs)) (length_pos_of_eq (attrsBlock_eq _)) ?_
    rw [zip_map_map]
    exact readFileProps_end _ _ _
  have hnames : LoopParses (readFileProps · fi.files.length { files := fi.files.map g, emptyfiles := [] } ne)
      (namesBlock fi.files ++ (timesBlock true 0x14 (fi.files.map (·.mtime)) ++
        (attrsBlock true (fi.files.map (·.attributes)) ++ [0x00])))
      { files := fi.files.map fun e => { g e with filename := some (fixSlash (nameOf e)), mtime := normSlot e.mtime,
                                                   attributes := normSlot e.attributes },
        emptyfiles := [] } := by
    by_cases hemp : fi.files = []
    · rw [show namesBlock fi.files = [] by rw [hemp]; rfl]
      exact (hlast g).of_val (by rw [hemp]; rfl)
    · have hne : fi.files.map nameOf ≠ [] := by simpa using hemp
      refine .step (fun fuel => impl_names_step fuel _ ne _ fi.files _ (filterMap_names _ wf.named) hne (by simp)
        (List.forall_mem_map.2 wf.scalar)
        (List.forall_mem_map.2 rf.nameLen) rf.namesSize63)
        (length_pos_of_eq (namesBlock_eq _ _ (filterMap_names _ wf.named) hne).1) ?_
      rw [zip_map_map]
      exact hlast _
  rcases padBlock_shape pos with hp | ⟨k, hk, hp⟩
  · rw [hp]; exact hnames
  · rw [hp]; exact .step (fun fuel => impl_dummy_step fuel _ ne _ k hk) (by simp) hnames

/-- the count check and the fuel of `readFilesInfo` are met by anything the property loop can read -/
theorem readFilesInfo_of_reads {n total : Nat} (hn : n < 2 ^ 64) (htot : n ≤ total * 8) {B : Bytes} {out : FilesInfo}
    (h : LoopParses (readFileProps · n { files := List.replicate n {}, emptyfiles := [] } 0) B out) :
    Parses (readFilesInfo total) (writeNumber n ++ B) out := fun rest => by
  unfold readFilesInfo
  rw [List.append_assoc, (pNumber_parses hn).step, if_neg (Nat.not_lt.2 htot), get_bind_run]
  exact h _ (by rw [List.length_append]; omega) rest

theorem readFilesInfo_parses {fi : FilesInfo} (rf : ReadableFiles fi) (pos : Nat) {total : Nat}
    (htot : fi.files.length ≤ total * 8) :
    Parses (readFilesInfo total) ((writeFilesInfo true fi pos).drop 1)
      { files := fi.files.map readBackFile, emptyfiles := [] } := by
  have wf := rf.wf
  obtain ⟨q, hq⟩ := writeFilesInfo_eq fi pos wf.emptyFiles
  rw [hq]
  refine readFilesInfo_of_reads (Nat.lt_trans wf.count (by decide)) htot ?_
  rw [show List.replicate fi.files.length ({} : FileEntry) = fi.files.map fun _ => {} from List.map_const'.symm]
  unfold esBlock
  by_cases hes : (fi.files.map (·.emptystream)).any id = true
  · rw [if_pos hes]
    refine .step (fun fuel => impl_emptystream_step fuel _ 0 _ _ (by simp) wf.count) (by simp) ?_
    rw [zip_map_map]
    exact impl_files_tail rf _ _ _
  · rw [if_neg hes, List.nil_append]
    have hall : ∀ e ∈ fi.files, e.emptystream = false := fun e he => by
      simpa using List.any_eq_false.1 (eq_false_of_ne_true hes) _ (List.mem_map_of_mem he)
    exact (impl_files_tail rf q 0 fun _ => {}).of_val (by
      congr 1; exact List.map_congr_left fun e he => by simp [readBackFile, hall e he])

/-- py7zr's reader on the FilesInfo section py7zr writes: every member comes back with its
    empty-stream flag, its name (backslashes rewritten), its time and attribute word, undefined
    entries undefined -/
theorem impl_reads_filesinfo (fi : FilesInfo) (pos total : Nat) (rest : Bytes) (rf : ReadableFiles fi)
    (htot : fi.files.length ≤ total * 8) :
    readFilesInfo total ((writeFilesInfo true fi pos).drop 1 ++ rest) =
      .ok ({ files := fi.files.map readBackFile, emptyfiles := [] }, rest) :=
  readFilesInfo_parses rf pos htot rest

end SevenZ
