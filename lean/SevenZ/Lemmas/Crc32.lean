/- CRC-32 as a linear shift register: burst detection. -/
import SevenZ.Model.Crc32
namespace SevenZ

theorem bv_xor_ac1 (a b c : BitVec 32) : a ^^^ (b ^^^ c) = b ^^^ (a ^^^ c) := by
  ac_rfl

theorem ite_xor (p : BitVec 32) (a b : Bool) :
    (if (a ^^ b) then p else 0#32) = (if a then p else 0#32) ^^^ (if b then p else 0#32) := by
  cases a <;> cases b <;> simp

/-- the shift is linear over xor -/
theorem crcShift_xor (x y : BitVec 32) : crcShift (x ^^^ y) = crcShift x ^^^ crcShift y := by
  unfold crcShift
  rw [BitVec.ushiftRight_xor_distrib, BitVec.getLsbD_xor, ite_xor]
  ac_rfl

/-- … hence so is a message-bit step, jointly in the register and the bit -/
theorem crcBit_xor (c1 c2 : BitVec 32) (b1 b2 : Bool) :
    crcBit c1 b1 ^^^ crcBit c2 b2 = crcBit (c1 ^^^ c2) (b1 ^^ b2) := by
  unfold crcBit
  rw [← crcShift_xor, ite_xor]
  congr 1
  ac_rfl

/-- the shift loses nothing: bit 31 of the result is the bit shifted out -/
theorem crcShift_eq_zero (z : BitVec 32) (h : crcShift z = 0#32) : z = 0#32 := by
  unfold crcShift at h
  have hl : z.getLsbD 0 = false := by
    cases hz : z.getLsbD 0 with
    | false => rfl
    | true =>
      have := congrArg (·.getLsbD 31) h
      simp [hz, crcPoly] at this
  rw [hl, if_neg Bool.false_ne_true, BitVec.xor_zero] at h
  apply BitVec.eq_of_getLsbD_eq
  intro i hi
  cases i with
  | zero => simpa using hl
  | succ i =>
    have := congrArg (·.getLsbD i) h
    simpa [Nat.add_comm 1 i] using this

/-- some bit at position `k` or above is set -/
def TopSet (k : Nat) (d : BitVec 32) : Prop := ∃ j, k ≤ j ∧ j < 32 ∧ d.getLsbD j = true

/-- a set bit at position `k + 1` or above is at `k` or above one step later, whatever message
    bit is fed (it only touches bit 0): either it moves down by one, or bit 0 was set and the
    feedback sets bit 31 -/
theorem topSet_step (d : BitVec 32) (k : Nat) (h : TopSet (k + 1) d) (δ : Bool) : TopSet k (crcBit d δ) := by
  obtain ⟨j, hkj, hj, hb⟩ := h
  have h1 : 1 + (j - 1) = j := Nat.add_sub_cancel' (Nat.le_trans (Nat.le_add_left 1 k) hkj)
  have hδ : (if δ then 1#32 else 0#32).getLsbD j = false := by
    cases δ
    · exact BitVec.getLsbD_zero
    · rw [← h1, if_pos rfl, BitVec.getLsbD_one]; simp
  have hx : (d ^^^ if δ then 1#32 else 0#32).getLsbD j = true := by
    rw [BitVec.getLsbD_xor, hb, hδ]; rfl
  unfold crcBit crcShift
  generalize d ^^^ (if δ then 1#32 else 0#32) = x at hx
  cases hl : x.getLsbD 0 with
  | true =>
    refine ⟨31, by omega, by decide, ?_⟩   -- k < j ≤ 31
    rw [if_pos rfl, BitVec.getLsbD_xor, BitVec.getLsbD_ushiftRight, BitVec.getLsbD_of_ge _ _ (by decide)]; rfl
  | false =>
    refine ⟨j - 1, Nat.le_sub_one_of_lt hkj, Nat.lt_of_le_of_lt (Nat.sub_le _ _) hj, ?_⟩
    rw [if_neg Bool.false_ne_true, BitVec.xor_zero, BitVec.getLsbD_ushiftRight, h1, hx]

theorem topSet_ne_zero (k : Nat) (d : BitVec 32) (h : TopSet k d) : d ≠ 0#32 := by
  obtain ⟨j, _, _, hb⟩ := h
  intro e; subst e; simp at hb

/-- two registers whose difference has a bit set at `k + length` or above, fed two windows of
    that length: the difference still has a bit set at `k` or above -/
theorem topSet_window (w1 : List Bool) : ∀ (w2 : List Bool) (r1 r2 : BitVec 32) (k : Nat),
    w1.length = w2.length → TopSet (k + w1.length) (r1 ^^^ r2) →
    TopSet k (w1.foldl crcBit r1 ^^^ w2.foldl crcBit r2) := by
  induction w1 with
  | nil => intro w2 r1 r2 k hl h; cases w2 with
    | nil => exact h
    | cons _ _ => cases hl
  | cons a w1 ih =>
    intro w2 r1 r2 k hl h
    cases w2 with
    | nil => cases hl
    | cons b w2 =>
      refine ih w2 (crcBit r1 a) (crcBit r2 b) k (Nat.succ.inj hl) ?_
      rw [crcBit_xor]
      exact topSet_step _ _ h _

theorem foldl_crcBit_ne (s : List Bool) : ∀ r1 r2 : BitVec 32, r1 ≠ r2 → s.foldl crcBit r1 ≠ s.foldl crcBit r2 := by
  induction s with
  | nil => exact fun _ _ h => h
  | cons b s ih =>
    refine fun r1 r2 h => ih _ _ fun e => h ?_
    have : crcShift (r1 ^^^ r2) = 0#32 := by
      have := crcBit_xor r1 r2 b b
      rwa [e, BitVec.xor_self, Bool.xor_self, crcBit, if_neg Bool.false_ne_true, BitVec.xor_zero, eq_comm] at this
    simpa [BitVec.xor_eq_zero_iff] using crcShift_eq_zero _ this

/-- bit level: two messages that agree except inside a window of at most 32 bits whose first
    bit differs leave the register in different states -/
theorem burst_bits (p s w1 w2 : List Bool) (b1 b2 : Bool) (c : BitVec 32)
    (hlen : w1.length = w2.length) (hw : w1.length ≤ 31) (hb : b1 ≠ b2) :
    (p ++ (b1 :: w1) ++ s).foldl crcBit c ≠ (p ++ (b2 :: w2) ++ s).foldl crcBit c := by
  simp only [List.foldl_append, List.foldl_cons]
  refine foldl_crcBit_ne s _ _ fun e => ?_
  -- after the common prefix the registers agree; the differing bit sets bit 31 of their difference,
  -- and the window is too short to shift it out
  have h1 : TopSet (0 + w1.length) (crcBit (p.foldl crcBit c) b1 ^^^ crcBit (p.foldl crcBit c) b2) := by
    rw [crcBit_xor, BitVec.xor_self, show (b1 ^^ b2) = true from bne_iff_ne.2 hb]
    exact ⟨31, by omega, by decide, by decide⟩
  have := topSet_window w1 w2 _ _ 0 hlen h1
  rw [e, BitVec.xor_self] at this
  exact topSet_ne_zero _ _ this rfl

theorem bitsOf_append (a b : Bytes) : bitsOf (a ++ b) = bitsOf a ++ bitsOf b := by
  induction a with
  | nil => rfl
  | cons x xs ih => simp only [List.cons_append, bitsOf, ih, List.append_assoc]

theorem bitsOf_length (a : Bytes) : (bitsOf a).length = 8 * a.length := by
  induction a with
  | nil => rfl
  | cons x xs ih => simp only [bitsOf, List.length_append, List.length_map, List.length_range, ih, List.length_cons]; omega

/-- the eight bits determine a byte: they are its `testBit`s, and the higher ones are all clear -/
theorem byteBits_inj (x y : Nat) (hx : x < 256) (hy : y < 256)
    (h : (List.range 8).map (fun i => decide ((x / 2 ^ i) % 2 = 1)) = (List.range 8).map (fun i => decide ((y / 2 ^ i) % 2 = 1))) :
    x = y := by
  refine Nat.eq_of_testBit_eq fun i => ?_
  by_cases hi : i < 8
  · simpa only [Nat.testBit_eq_decide_div_mod_eq] using List.map_inj_left.1 h i (List.mem_range.2 hi)
  · have h8 : 256 ≤ 2 ^ i := Nat.pow_le_pow_right (n := 2) (by decide) (Nat.le_of_not_lt hi)
    rw [Nat.testBit_lt_two_pow (Nat.lt_of_lt_of_le hx h8), Nat.testBit_lt_two_pow (Nat.lt_of_lt_of_le hy h8)]

theorem bitsOf_inj (a : Bytes) : ∀ b : Bytes, a.length = b.length → IsBytes a → IsBytes b →
    bitsOf a = bitsOf b → a = b := by
  induction a with
  | nil => intro b h _ _ _; exact (List.eq_nil_of_length_eq_zero h.symm).symm
  | cons x xs ih =>
    intro b h ha hb he
    cases b with
    | nil => cases h
    | cons y ys =>
      obtain ⟨e1, e2⟩ := List.append_inj he (by simp only [List.length_map])
      rw [byteBits_inj x y (ha x List.mem_cons_self) (hb y List.mem_cons_self) e1,
        ih ys (Nat.succ.inj h) (fun z hz => ha z (List.mem_cons_of_mem _ hz)) (fun z hz => hb z (List.mem_cons_of_mem _ hz)) e2]

theorem first_difference {α : Type} (a : List α) : ∀ b : List α, a.length = b.length → a ≠ b →
    ∃ p x y a' b', a = p ++ x :: a' ∧ b = p ++ y :: b' ∧ x ≠ y ∧ a'.length = b'.length := by
  induction a with
  | nil => intro b h hne; exact absurd (List.eq_nil_of_length_eq_zero h.symm).symm hne
  | cons x xs ih =>
    intro b h hne
    cases b with
    | nil => cases h
    | cons y ys =>
      by_cases hxy : x = y
      · subst hxy
        obtain ⟨p, u, v, a', b', h1, h2, h3, h4⟩ := ih ys (Nat.succ.inj h) fun e => hne (by rw [e])
        exact ⟨x :: p, u, v, a', b', by rw [h1]; rfl, by rw [h2]; rfl, h3, h4⟩
      · exact ⟨[], x, y, xs, ys, rfl, rfl, hxy, Nat.succ.inj h⟩

/-- two byte strings whose bits differ only inside a window of at most 32 bits, wherever it starts, have different CRC-32 -/
theorem crc32_detects_bit_burst {a b : Bytes} {p s w1 w2 : List Bool} (ha : bitsOf a = p ++ w1 ++ s) (hb : bitsOf b = p ++ w2 ++ s)
    (hlen : w1.length = w2.length) (h32 : w1.length ≤ 32) (hne : w1 ≠ w2) (value : Nat) :
    crc32Update value a ≠ crc32Update value b := by
  -- from the first differing bit on, what is left of the window is at most 31 bits
  obtain ⟨q, x, y, a', b', rfl, rfl, hxy, hl⟩ := first_difference w1 w2 hlen hne
  have hlen1 : a'.length ≤ 31 := by rw [List.length_append, List.length_cons] at h32; omega
  have hbb := burst_bits (p ++ q) s a' b' x y (BitVec.ofNat 32 value ^^^ 0xFFFFFFFF#32) hl hlen1 hxy
  intro heq
  apply hbb
  simp only [crc32Update, crcFeed, ha, hb] at heq
  have := BitVec.eq_of_toNat_eq heq
  rw [BitVec.xor_left_inj] at this
  simpa only [List.append_assoc] using this

/-- byte level: two byte strings of equal length that differ only inside four consecutive
    bytes (in particular any single flipped bit) have different CRC-32 -/
theorem crc32_detects_burst (pre post mid1 mid2 : Bytes) (hlen : mid1.length = mid2.length)
    (h4 : mid1.length ≤ 4) (hne : mid1 ≠ mid2) (hb1 : IsBytes mid1) (hb2 : IsBytes mid2) (value : Nat) :
    crc32Update value (pre ++ mid1 ++ post) ≠ crc32Update value (pre ++ mid2 ++ post) :=
  crc32_detects_bit_burst (by rw [bitsOf_append, bitsOf_append]) (by rw [bitsOf_append, bitsOf_append])
    (by rw [bitsOf_length, bitsOf_length, hlen]) (by rw [bitsOf_length]; omega)
    (fun e => hne (bitsOf_inj mid1 mid2 hlen hb1 hb2 e)) value

theorem crc32Update_append (value : Nat) (a b : Bytes) :
    crc32Update (crc32Update value a) b = crc32Update value (a ++ b) := by
  unfold crc32Update crcFeed
  rw [bitsOf_append, List.foldl_append, BitVec.ofNat_toNat, BitVec.setWidth_eq, BitVec.xor_assoc, BitVec.xor_self,
    BitVec.xor_zero]

theorem crc32Update_lt (value : Nat) (a : Bytes) : crc32Update value a < 2 ^ 32 := by
  unfold crc32Update
  exact BitVec.isLt _

theorem crc32_lt (a : Bytes) : crc32 a < 2 ^ 32 := crc32Update_lt 0 a

theorem crc32Update_nil (value : Nat) (h : value < 2 ^ 32) : crc32Update value [] = value := by
  unfold crc32Update crcFeed bitsOf
  simp only [List.foldl_nil]
  rw [BitVec.xor_assoc]
  simp [Nat.mod_eq_of_lt h]

end SevenZ
