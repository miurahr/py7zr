/-
The strict reader on the FilesInfo section the writer model emits: the property loop turn by turn
(EmptyStream, padding, Names — every name code point by code point —, MTime, Attributes) and the
composition, which recovers name, empty-stream flag, time and attribute word of every member.
-/
import SevenZ.Lemmas.SpecProps
namespace SevenZ
open Impl Spec

theorem splitNames_units (us : List Nat) (hu : ∀ u ∈ us, 0 < u ∧ u < 65536) (k : Nat) (rest : Bytes) (acc : List Nat) :
    splitNames (k + us.length + 1) (unitsToBytes us ++ 0 :: 0 :: rest) acc =
      match decodeUtf16Units (acc.reverse ++ us) with
      | none => .error "invalid UTF-16 in file name"
      | some cs => (splitNames k rest []).map (fun r => cs :: r) := by
  induction us generalizing acc with
  | nil =>
    -- the terminator: the units gathered so far are decoded
    rw [unitsToBytes, List.nil_append, List.append_nil, splitNames_unit, if_pos rfl]
    cases decodeUtf16Units acc.reverse <;> rfl
  | cons u us ih =>
    -- a unit other than 0: it joins the units gathered so far
    rw [unitsToBytes, List.cons_append, List.cons_append, List.length_cons, ← Nat.add_assoc, splitNames_unit, Nat.mod_add_div,
      if_neg (Nat.ne_of_gt (hu u List.mem_cons_self).1), ih (fun x hx => hu x (List.mem_cons_of_mem _ hx)) (u :: acc),
      List.reverse_cons, List.append_assoc, List.singleton_append]

theorem splitNames_names (names : List (List Nat)) (hs : ∀ nm ∈ names, ∀ c ∈ nm, IsScalar c) (k : Nat) :
    splitNames (k + (names.map (fun nm => (nm.flatMap unitsOf).length + 1)).sum) (names.flatMap writeUtf16) [] = .ok names := by
  induction names with
  | nil => cases k <;> rfl
  | cons nm rest ih =>
    have hu := units_ok nm (hs nm (by simp))
    simp only [List.map_cons, List.sum_cons, List.flatMap_cons]
    rw [show writeUtf16 nm = unitsToBytes (nm.flatMap unitsOf) ++ [0, 0] from rfl]
    simp only [List.append_assoc, List.cons_append, List.nil_append]
    have hf : k + ((nm.flatMap unitsOf).length + 1 + (rest.map (fun nm => (nm.flatMap unitsOf).length + 1)).sum) =
        (k + (rest.map (fun nm => (nm.flatMap unitsOf).length + 1)).sum) + (nm.flatMap unitsOf).length + 1 := by omega
    rw [hf, splitNames_units _ hu]
    simp only [List.reverse_nil, List.nil_append]
    rw [decodeUtf16Units_eq_decodeUnits, decode_flatMap nm (hs nm (by simp))]
    have := ih (fun n hn => hs n (by simp [hn]))
    rw [this]
    rfl

theorem names_units_sum (names : List (List Nat)) :
    (names.map (fun n => 2 * (n.flatMap unitsOf).length + 2)).sum =
      2 * (names.map (fun nm => (nm.flatMap unitsOf).length + 1)).sum := by
  induction names with
  | nil => rfl
  | cons nm rest ih => simp only [List.map_cons, List.sum_cons, ih]; omega

/-- one step of the strict reader's property loop over a written Names block: every name is
    recovered, code point by code point (BMP and astral), for any number of names -/
theorem spec_names_step (fuel n ne : Nat) (seen : Bool) (sfiles : List SFile) (entries : List FileEntry)
    (names : List (List Nat)) (hnames : entries.filterMap (·.filename) = names) (hne : names ≠ [])
    (hlen : names.length = n) (hs : ∀ nm ∈ names, ∀ c ∈ nm, IsScalar c)
    (hsize : (names.map (fun n => 2 * (n.flatMap unitsOf).length + 2)).sum + 1 < 2 ^ 64) (rest : Bytes) :
    sFileProps (fuel + 1) n sfiles ne seen (namesBlock entries ++ rest) =
      sFileProps fuel n (setList sfiles names (fun f v => { f with name := some v })) ne seen rest := by
  have hinner : sNamesBody ([0x00] ++ names.flatMap writeUtf16) = .ok (names, []) := by
    unfold sNamesBody
    rw [(sByte_parses 0 _).step, if_neg (by decide), get_bind_run, set_bind_run]
    -- `splitNames` spends one unit of fuel per 16-bit unit, terminators included: half the bytes, so `length + 1` is more than enough
    rw [show (names.flatMap writeUtf16).length + 1 = ((names.map (fun nm => (nm.flatMap unitsOf).length + 1)).sum + 1) +
        (names.map (fun nm => (nm.flatMap unitsOf).length + 1)).sum by rw [names_bytes_length, names_units_sum]; omega,
      splitNames_names names hs]
    rfl
  obtain ⟨hblock, hblen⟩ := namesBlock_eq entries names hnames hne
  suffices h : ParsesTo (sFileProps (fuel + 1) n sfiles ne seen) (namesBlock entries)
      (sFileProps fuel n (setList sfiles names (fun f v => { f with name := some v })) ne seen) from h rest
  rw [hblock, sFileProps]
  exact .bind (sByte_parses _ _) <| .if_neg (by decide) <| .bind (sNumber_parses hsize _) <|
    .bind_nil (sSized_of_run hinner hblen "Names") <| .if_neg (Decidable.not_not.2 hlen) (.refl _)

theorem spec_times_step (fuel n ne : Nat) (seen : Bool) (files : List SFile) (slots : List (Slot Nat))
    (hlen : slots.length = n) (hn : slots.length < 2 ^ 32)
    (hv : ∀ s ∈ slots, ∀ t, s = .val t → t < 256 ^ 8) :
    ParsesTo (sFileProps (fuel + 1) n files ne seen) (timesBlock true 0x14 slots)
      (sFileProps fuel n (setList files (slots.map slotOpt) (fun f t => { f with mtime := t })) ne seen) := by
  rw [timesBlock_eq, sFileProps]
  exact .bind (sByte_parses _ _) <| .if_neg (by decide) <|
    .bind (sNumber_parses (Nat.lt_trans (vectorBody_lt (Nat.le_refl 8) slots hn) (by decide)) _) <|
    (sSized_parses (sOptVector_parses slots hlen hv "MTime") rfl "MTime").step _

theorem spec_attrs_step (fuel n ne : Nat) (seen : Bool) (files : List SFile) (slots : List (Slot Nat))
    (hlen : slots.length = n) (hn : slots.length < 2 ^ 32)
    (hv : ∀ s ∈ slots, ∀ t, s = .val t → t < 256 ^ 4) :
    ParsesTo (sFileProps (fuel + 1) n files ne seen) (attrsBlock true slots)
      (sFileProps fuel n (setList files (slots.map slotOpt) (fun f t => { f with attr := t })) ne seen) := by
  rw [attrsBlock_eq, sFileProps]
  exact .bind (sByte_parses _ _) <| .if_neg (by decide) <|
    .bind (sNumber_parses (Nat.lt_trans (vectorBody_lt (by decide : 4 ≤ 8) slots hn) (by decide)) _) <|
    (sSized_parses (sOptVector_parses slots hlen hv "Attributes") rfl "Attributes").step _

theorem sFileProps_end (n : Nat) (files : List SFile) (ne : Nat) (seen : Bool) :
    LoopParses (sFileProps · n files ne seen) [0x00] files
  | fuel + 1, _ => by
    show Parses (sFileProps (fuel + 1) n files ne seen) _ _
    rw [sFileProps]
    exact .bind (sByte_parses 0 _) (.if_pos rfl (.pure _))

/-- EmptyStream property as written: `0x0E`, size ⌈n/8⌉, the packed bits -/
theorem spec_emptystream_step (fuel n : Nat) (files : List SFile) (es : List Bool) (hlen : es.length = n)
    (hn : n < 2 ^ 32) :
    ParsesTo (sFileProps (fuel + 1) n files 0 false) ([0x0E] ++ writeNumber (bitsToBytes n) ++ writeBools es false)
      (sFileProps fuel n (setList files es (fun f b => { f with emptyStream := b })) (es.filter (fun b => b)).length true) := by
  have hsz : bitsToBytes n < 2 ^ 64 := by simp only [bitsToBytes]; omega
  have hwb : writeBools es false = packBits es := by simp [writeBools]
  rw [List.append_assoc, sFileProps, hwb]
  exact .bind (sByte_parses _ _) <| .if_neg (by decide) <| .bind (sNumber_parses hsz _) <|
    (sSized_parses (sBitField_parses es hlen _) (by rw [← hwb, writeBools_length, hlen]) _).step _

/-- kDummy padding as written: `0x19`, a one-byte size, that many zero bytes -/
theorem spec_dummy_step (fuel n ne : Nat) (seen : Bool) (files : List SFile) (k : Nat) (hk : k < 0x80) :
    ParsesTo (sFileProps (fuel + 1) n files ne seen) ([0x19, k] ++ List.replicate k 0) (sFileProps fuel n files ne seen) := by
  have hw : [0x19, k] = [0x19] ++ writeNumber k := by simp [writeNumber, hk]
  rw [hw, List.append_assoc, sFileProps]
  exact .bind (sByte_parses _ _) <| .if_neg (by decide) <| .bind (sNumber_parses (by omega) _) <|
    .bind_nil (sTake_parses _ List.length_replicate "Dummy") <| .if_neg (by simp) (.refl _)

theorem setList_map {α β : Type} (l : List α) (g : α → SFile) (h : α → β) (f : SFile → β → SFile) :
    setList (l.map g) (l.map h) f = l.map (fun e => f (g e) (h e)) :=
  zip_map_map l g h _

/-- what the strict reader must recover for a member the writer described -/
def toSFile (e : FileEntry) : SFile :=
  { name := e.filename, emptyStream := e.emptystream, mtime := slotOpt e.mtime, attr := slotOpt e.attributes }

/-- the part of the section after the EmptyStream property, from any state `g` of the reader's records -/
theorem spec_files_tail {fi : FilesInfo} (wf : WFFiles fi) (pos ne : Nat) (seen : Bool) (g : FileEntry → SFile) :
    LoopParses (sFileProps · fi.files.length (fi.files.map g) ne seen)
      (padBlock pos ++ (namesBlock fi.files ++ (timesBlock true 0x14 (fi.files.map (·.mtime)) ++
        (attrsBlock true (fi.files.map (·.attributes)) ++ [0x00]))))
      (fi.files.map fun e => { g e with name := e.filename, mtime := slotOpt e.mtime, attr := slotOpt e.attributes }) := by
  have hlast : ∀ g : FileEntry → SFile, LoopParses (sFileProps · fi.files.length (fi.files.map g) ne seen)
      (timesBlock true 0x14 (fi.files.map (·.mtime)) ++ (attrsBlock true (fi.files.map (·.attributes)) ++ [0x00]))
      (fi.files.map fun e => { g e with mtime := slotOpt e.mtime, attr := slotOpt e.attributes }) := fun g => by
    refine .step (fun fuel => spec_times_step fuel _ ne seen _ _ (by simp) (by simpa using wf.count)
      (List.forall_mem_map.2 wf.mtimes)) (length_pos_of_eq (timesBlock_eq _ _)) ?_
    rw [List.map_map, setList_map]
    refine .step (fun fuel => spec_attrs_step fuel _ ne seen _ _ (by simp) (by simpa using wf.count)
      (List.forall_mem_map.2 wf.attrs)) (length_pos_of_eq (attrsBlock_eq _)) ?_
    rw [List.map_map, setList_map]
    exact sFileProps_end _ _ _ _
  have hnames : LoopParses (sFileProps · fi.files.length (fi.files.map g) ne seen)
      (namesBlock fi.files ++ (timesBlock true 0x14 (fi.files.map (·.mtime)) ++ (attrsBlock true (fi.files.map (·.attributes)) ++ [0x00])))
      (fi.files.map fun e => { g e with name := e.filename, mtime := slotOpt e.mtime, attr := slotOpt e.attributes }) := by
    by_cases hemp : fi.files = []
    · rw [show namesBlock fi.files = [] by rw [hemp]; rfl]
      exact (hlast g).of_val (by rw [hemp]; rfl)
    · have hne : fi.files.map nameOf ≠ [] := by simpa using hemp
      refine .step (fun fuel rest => spec_names_step fuel _ ne seen _ fi.files _ (filterMap_names _ wf.named) hne (by simp)
        (List.forall_mem_map.2 wf.scalar) wf.namesSize rest)
        (length_pos_of_eq (namesBlock_eq _ _ (filterMap_names _ wf.named) hne).1) ?_
      rw [setList_map]
      refine (hlast _).of_val (List.map_congr_left fun e he => ?_)
      rw [filename_eq (wf.named e he)]
  rcases padBlock_shape pos with hp | ⟨k, hk, hp⟩
  · rw [hp]; exact hnames
  · rw [hp]; exact .step (fun fuel => spec_dummy_step fuel _ ne seen _ k hk) (by simp) hnames

/-- the count check and the fuel of `sFilesInfo` are met by anything the property loop can read that
    describes its files in at least two bytes each, save two -/
theorem sFilesInfo_of_reads {n : Nat} (hn : n < 2 ^ 64) {B : Bytes} {out : List SFile} (hb : 2 * n ≤ B.length + 2)
    (h : LoopParses (sFileProps · n (List.replicate n {}) 0 false) B out) : Parses sFilesInfo (writeNumber n ++ B) out := fun rest => by
  unfold sFilesInfo
  rw [List.append_assoc, (sNumber_parses hn _).step, get_bind_run, if_neg (by rw [List.length_append]; omega)]
  exact h _ (by rw [List.length_append]; omega) rest

theorem sFilesInfo_parses {fi : FilesInfo} (wf : WFFiles fi) (pos : Nat) :
    Parses sFilesInfo ((writeFilesInfo true fi pos).drop 1) (fi.files.map toSFile) := by
  obtain ⟨q, hq⟩ := writeFilesInfo_eq fi pos wf.emptyFiles
  rw [hq]
  have h1 := namesBlock_length_ge fi.files wf.named
  refine sFilesInfo_of_reads (Nat.lt_trans wf.count (by decide)) (by simp only [List.length_append]; omega) ?_
  rw [show List.replicate fi.files.length ({} : SFile) = fi.files.map fun _ => {} from List.map_const'.symm]
  unfold esBlock
  by_cases hes : (fi.files.map (·.emptystream)).any id = true
  · rw [if_pos hes]
    refine .step (fun fuel => spec_emptystream_step fuel _ _ _ (by simp) wf.count) (by simp) ?_
    rw [setList_map]
    exact spec_files_tail wf _ _ _ _
  · rw [if_neg hes]
    refine (spec_files_tail wf _ _ _ _).of_val (List.map_congr_left fun e he => ?_)
    have : e.emptystream = false := by
      simpa using List.any_eq_false.1 (by simpa using hes) _ (List.mem_map_of_mem he)
    simp [toSFile, this]

end SevenZ
