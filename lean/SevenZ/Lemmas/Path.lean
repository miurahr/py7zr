/- Lexical paths: `check_archive_path` decides what the independent definition decides
   (`check_eq_oracle`), by the one-component equations of `Spec.resolve` and `depthWalk`. -/
import SevenZ.Model.Path
namespace SevenZ
open Impl

theorem rootOf_nil_iff (s : Str) : rootOf s = [] ↔ s.head? ≠ some '/' := by
  unfold rootOf
  split
  case h_4 h =>
    cases s with
    | nil => simp
    | cons c r => simpa using fun e : c = '/' => h r (e ▸ rfl)
  all_goals simp

/-- the components `pathlib` keeps: not empty, not `.` -/
def keepComp (c : Str) : Bool := decide (c ≠ [] ∧ c ≠ ['.'])

/-- a component that is a real directory or file name -/
def cleanComp (c : Str) : Prop := c ≠ [] ∧ c ≠ ['.'] ∧ c ≠ ['.', '.']

theorem comp_cases (c : Str) : (c = [] ∨ c = ['.']) ∨ c = ['.', '.'] ∨ cleanComp c := by
  by_cases h1 : c = [] ∨ c = ['.']
  · exact .inl h1
  · by_cases h2 : c = ['.', '.']
    · exact .inr (.inl h2)
    · exact .inr (.inr ⟨fun e => h1 (.inl e), fun e => h1 (.inr e), h2⟩)

/-! `Spec.resolve` and `depthWalk`, one component at a time -/

theorem resolve_skip {c : Str} (h : c = [] ∨ c = ['.']) (stack cs : List Str) :
    Spec.resolve stack (c :: cs) = Spec.resolve stack cs := by
  rw [Spec.resolve, if_pos h]

theorem nil_or_snoc {α : Type} (l : List α) : l = [] ∨ ∃ up x, l = up ++ [x] := by
  simpa only [List.concat_eq_append] using List.eq_nil_or_concat l

theorem resolve_up_nil (cs : List Str) : Spec.resolve [] (['.', '.'] :: cs) = none := by
  rw [Spec.resolve, if_neg (by decide), if_pos rfl]; rfl

theorem resolve_up (up : List Str) (x : Str) (cs : List Str) :
    Spec.resolve (up ++ [x]) (['.', '.'] :: cs) = Spec.resolve up cs := by
  rw [Spec.resolve, if_neg (by decide), if_pos rfl, List.reverse_append]
  show Spec.resolve up.reverse.reverse cs = _
  rw [List.reverse_reverse]

theorem resolve_push {c : Str} (h : cleanComp c) (stack cs : List Str) :
    Spec.resolve stack (c :: cs) = Spec.resolve (stack ++ [c]) cs := by
  rw [Spec.resolve, if_neg (by simp [h.1, h.2.1]), if_neg h.2.2]

theorem depthWalk_up (d : Nat) (ps : List Str) : depthWalk (d + 1) (['.', '.'] :: ps) = depthWalk d ps := by
  simp [depthWalk]

theorem depthWalk_push {p : Str} (h : p ≠ ['.', '.']) (d : Nat) (ps : List Str) :
    depthWalk d (p :: ps) = depthWalk (d + 1) ps := by
  simp [depthWalk, h]

theorem resolve_depth (cs : List Str) : ∀ stack : List Str,
    (Spec.resolve stack cs).isSome = depthWalk stack.length (cs.filter keepComp) := by
  induction cs with
  | nil => intro stack; rfl
  | cons c cs ih =>
    intro stack
    rcases comp_cases c with h | rfl | h
    · rw [resolve_skip h, List.filter_cons_of_neg (by rcases h with rfl | rfl <;> decide), ih]
    · rw [List.filter_cons_of_pos (by decide)]
      rcases nil_or_snoc stack with rfl | ⟨up, x, rfl⟩
      · rw [resolve_up_nil]; rfl
      · rw [resolve_up, List.length_append, ih]; exact (depthWalk_up _ _).symm
    · rw [resolve_push h, List.filter_cons_of_pos (by simp [keepComp, h.1, h.2.1]), depthWalk_push h.2.2, ih,
        List.length_append]; rfl

theorem check_eq_oracle (s : Str) : checkArchivePath s = Spec.nameStaysInside s := by
  unfold checkArchivePath Spec.nameStaysInside
  by_cases h : s.head? = some '/'
  · cases s with
    | nil => simp at h
    | cons c rest =>
      simp at h; subst h
      have : rootOf ('/' :: rest) ≠ [] := by
        intro e; have := (rootOf_nil_iff _).mp e; simp at this
      simp [parse, PPath.isAbsolute, this]
  · have hr : rootOf s = [] := (rootOf_nil_iff s).mpr h
    -- `simp` finds this in the context and with it rules out the `'/' :: _` alternative of the oracle's `match`
    have hne : ∀ rest, s ≠ '/' :: rest := by
      intro rest e; subst e; simp at h
    have hw := resolve_depth (splitSlash s) []
    simp only [parse, PPath.isAbsolute, hr, ne_eq, not_true_eq_false, decide_false, Bool.false_eq_true, if_false,
      PPath.parts, if_true, List.nil_append]
    rw [hw]; rfl

theorem splitSlash_ne_nil (s : Str) : splitSlash s ≠ [] := by
  induction s with
  | nil => simp [splitSlash]
  | cons c rest ih =>
    unfold splitSlash
    split
    · simp
    · split
      · simp
      · simp

theorem splitSlash_no_slash (s : Str) : ∀ w ∈ splitSlash s, '/' ∉ w := by
  induction s with
  | nil => intro w hw; cases List.mem_singleton.1 hw; exact List.not_mem_nil
  | cons c rest ih =>
    intro w hw
    unfold splitSlash at hw
    split at hw
    · rcases List.mem_cons.1 hw with rfl | h
      · exact List.not_mem_nil
      · exact ih w h
    · rename_i hc
      split at hw
      · cases List.mem_singleton.1 hw; simpa using Ne.symm hc
      · rename_i w0 ws heq
        rw [heq] at ih
        rcases List.mem_cons.1 hw with rfl | h
        · simpa using ⟨Ne.symm hc, ih w0 List.mem_cons_self⟩
        · exact ih w (List.mem_cons_of_mem _ h)

/-- what `_sanitize_archive_arcname` lets through is neither absolute nor drive-prefixed -/
theorem sanitize_not_absolute (s p : Str) (h : sanitizeArcname s = some p) :
    p.head? ≠ some '/' ∧ hasDrive p = false := by
  simp only [sanitizeArcname, Option.ite_none_left_eq_some] at h
  obtain ⟨hn, h⟩ := h
  cases h
  exact ⟨fun e => hn (.inl e), Bool.eq_false_iff.2 fun e => hn (.inr e)⟩

/-- … and the name stored for it (`pathlib.Path(p).as_posix()`) does not start with a slash -/
theorem stored_not_absolute (p : Str) (h : p.head? ≠ some '/') : (storedName p).head? ≠ some '/' := by
  have hr : rootOf p = [] := (rootOf_nil_iff p).mpr h
  unfold storedName PPath.toStr parse
  simp only [hr, true_and, List.nil_append]
  split
  · simp
  · rename_i hne
    cases hc : (splitSlash p).filter (fun c => decide (c ≠ [] ∧ c ≠ ['.'])) with
    | nil => exact absurd hc hne
    | cons w ws =>
      -- the name starts with the first kept component, which is not empty and holds no slash
      obtain ⟨hin, hkeep⟩ := List.mem_filter.1 (hc ▸ List.mem_cons_self : w ∈ _)
      cases w with
      | nil => simp at hkeep
      | cons a as =>
        have : a ≠ '/' := fun e => splitSlash_no_slash p _ hin (e ▸ List.mem_cons_self)
        cases ws <;> simp [List.intercalate, this]

/-- the independent resolver only ever keeps real names on its stack: where an accepted name
    ends up is a path of plain components under the virtual root -/
theorem resolve_clean (cs : List Str) : ∀ (stack r : List Str),
    Spec.resolve stack cs = some r → (∀ c ∈ stack, cleanComp c) → ∀ c ∈ r, cleanComp c := by
  induction cs with
  | nil => intro stack r h hs; cases h; exact hs
  | cons c cs ih =>
    intro stack r h hs
    rcases comp_cases c with hk | rfl | hk
    · exact ih stack r (resolve_skip hk stack cs ▸ h) hs
    · rcases nil_or_snoc stack with rfl | ⟨up, x, rfl⟩
      · rw [resolve_up_nil] at h; cases h
      · exact ih up r (resolve_up up x cs ▸ h) fun d hd => hs d (List.mem_append_left _ hd)
    · refine ih _ r (resolve_push hk stack cs ▸ h) fun d hd => ?_
      rcases List.mem_append.1 hd with hd | hd
      · exact hs d hd
      · rw [List.mem_singleton.1 hd]; exact hk

/-- the depth walk is monotone in the starting depth: what stays inside the root stays inside
    every directory below it -/
theorem depthWalk_mono (ps : List Str) : ∀ d k : Nat, depthWalk d ps = true → depthWalk (d + k) ps = true := by
  induction ps with
  | nil => intro d k _; rfl
  | cons p ps ih =>
    intro d k h
    by_cases hp : p = ['.', '.']
    · subst hp
      cases d with
      | zero => cases h
      | succ d => rw [Nat.add_right_comm, depthWalk_up]; exact ih d k (depthWalk_up d ps ▸ h)
    · rw [depthWalk_push hp] at h ⊢
      rw [Nat.add_right_comm]; exact ih _ k h

/-- a name the `writestr`/`writef` gate accepts does not start with a slash -/
theorem check_head (s : Str) (h : checkArchivePath s = true) : s.head? ≠ some '/' := by
  -- the independent definition refuses a leading slash outright
  rintro e
  cases s with
  | nil => cases e
  | cons c r => cases (Option.some.inj e : c = '/'); rw [check_eq_oracle] at h; cases h

end SevenZ
