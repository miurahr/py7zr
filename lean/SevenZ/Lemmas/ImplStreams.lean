/-
py7zr's own header reader (`Impl.read*`, the model of archiveinfo.py `_read` methods) on the
StreamsInfo section py7zr's writer emits: PackInfo, folders of simple coders chained linearly
(what `Folder.prepare_coderinfo` builds), SubStreamsInfo.  The reader does not return the object
that was written but `readBackPack` / `readBackFolder` / `readBackSub` of it (digests filtered,
packed indices filled in, sizes made explicit); the later files speak in those terms.
-/
import SevenZ.Lemmas.ImplProps
import SevenZ.Lemmas.WrittenStreams
namespace SevenZ
open Impl

/-- what `PackInfo._read` reconstructs -/
def readBackPack (p : PackInfo) : PackInfo :=
  if p.digestdefined.foldl (· || ·) p.enableDigests then
    { packpos := p.packpos, numstreams := p.numstreams, packsizes := p.packsizes, digestdefined := p.digestdefined,
      crcs := ((p.digestdefined.zip p.crcs).filter (·.1)).map (·.2),
      enableDigests := decide ((((p.digestdefined.zip p.crcs).filter (·.1)).map (·.2)).length > 0) }
  else
    { packpos := p.packpos, numstreams := p.numstreams, packsizes := p.packsizes, digestdefined := [], crcs := [],
      enableDigests := false }

theorem zip_replicate_left {α β} (a : α) : ∀ (k : Nat) (l : List β), l.length = k → (List.replicate k a).zip l = l.map (a, ·)
  | 0, [], _ => rfl
  | k + 1, x :: l, h => by rw [List.replicate_succ, List.zip_cons_cons, zip_replicate_left a k l (by simpa using h)]; rfl

theorem foldl_or_true (l : List Bool) : l.foldl (· || ·) true = true := by
  induction l with
  | nil => rfl
  | cons a l ih => simpa using ih

theorem foldl_or_replicate_true (k : Nat) (hk : 0 < k) : (List.replicate k true).foldl (· || ·) true = true :=
  foldl_or_true _

theorem readBackPack_none (p : PackInfo) (he : p.enableDigests = false) (hd : p.digestdefined = []) (hc : p.crcs = []) :
    readBackPack p = p := by
  cases p; simp_all [readBackPack]

theorem readBackPack_all (p : PackInfo) (he : p.enableDigests = true) (hd : p.digestdefined = List.replicate p.crcs.length true)
    (hc : p.crcs ≠ []) : readBackPack p = p := by
  have hz : ((p.digestdefined.zip p.crcs).filter (·.1)).map (·.2) = p.crcs := by
    rw [hd, zip_replicate_left true _ _ rfl]; simp [List.filter_map, Function.comp_def]
  have hl : decide (p.crcs.length > 0) = true := by simpa [List.length_pos_iff] using hc
  unfold readBackPack
  rw [he, foldl_or_true, if_pos rfl, hz, hl, ← he]

/-- `PackInfo._read` keeps the digests of the defined entries only -/
theorem definedCrcs_parses : ∀ (defined : List Bool) (crcs : List Nat), crcs.length = defined.length →
    (∀ c ∈ crcs, c < 256 ^ 4) →
    Parses ((defined.filter id).mapM fun _ => pFixed 4 : P (List Nat))
      ((defined.zip crcs).flatMap fun x => optBytes 4 (if x.1 then some x.2 else none))
      (((defined.zip crcs).filter (·.1)).map (·.2))
  | [], _, _, _ => .pure _
  | _ :: _, [], hl, _ => by simp at hl
  | true :: ds, c :: cs, hl, h => by
    rw [List.filter_cons_of_pos rfl, List.mapM_cons]
    exact .bind (pFixed_parses (h c List.mem_cons_self))
      (.bind_nil (definedCrcs_parses ds cs (by simpa using hl) fun x hx => h x (List.mem_cons_of_mem _ hx)) (.pure _))
  | false :: ds, c :: cs, hl, h =>
    definedCrcs_parses ds cs (by simpa using hl) fun x hx => h x (List.mem_cons_of_mem _ hx)

theorem readPackInfo_parses {p : PackInfo} {bytes : Bytes} (hw : writePackInfo p = some bytes) (wf : WFPack p) :
    Parses readPackInfo (bytes.drop 1) (readBackPack p) := by
  obtain ⟨hlen, hchk, rfl⟩ := writePackInfo_some hw
  change Parses _ (writeNumber p.packpos ++ _) _
  unfold readPackInfo readBackPack
  refine .bind (pNumber_parses wf.pos) <| .bind (pNumber_parses wf.n) <| .bind (read1_parses _) <| .if_pos rfl ?_
  rw [List.append_assoc]
  refine .bind (pNumbers_parses hlen.symm wf.sizes) <| .bind (read1_parses _) ?_
  by_cases hen : p.digestdefined.foldl (· || ·) p.enableDigests = true
  · have hdl := wf.defined hen
    have hcl : p.crcs.length = p.digestdefined.length := (hchk hen).1.trans hdl.symm
    rw [if_pos hen, if_pos hen, if_pos hen, ← hdl, crcBytes_by_index _ _ hcl]
    exact .if_pos rfl <| .bind (pBools_parses _ true rfl) <| .bind (definedCrcs_parses _ _ hcl wf.crcs) <|
      .bind_nil (read1_parses _) <| .if_neg (fun h => h rfl) (.pure _)
  · rw [if_neg hen, if_neg hen, if_neg hen]
    exact .if_neg (by decide) <| .if_neg (fun h => h rfl) (.pure _)

theorem impl_reads_packinfo (p : PackInfo) (bytes rest : Bytes) (hw : writePackInfo p = some bytes) (wf : WFPack p)
    :
    readPackInfo (bytes.drop 1 ++ rest) = .ok (readBackPack p, rest) :=
  readPackInfo_parses hw wf rest

/-- the folder records py7zr's writer holds: 1..32 simple coders with a non-empty id, chained by
    `linearPairs`, one unpack size per coder -/
structure LinearFolder (f : Folder) : Prop where
  ncoders : 0 < f.coders.length ∧ f.coders.length ≤ 32
  simple : ∀ c ∈ f.coders, c.numIn = 1 ∧ c.numOut = 1
  coders : ∀ c ∈ f.coders, WFCoder c
  ids : ∀ c ∈ f.coders, c.method ≠ []
  props : ∀ c ∈ f.coders, ∀ p, c.props = some p → p.length < 2 ^ 63
  pairs : f.bindpairs = linearPairs f.coders.length
  nsizes : f.unpacksizes.length = f.coders.length
  sizes : ∀ v ∈ f.unpacksizes, v < 2 ^ 64

theorem LinearFolder.chain {f : Folder} (lf : LinearFolder f) : ChainFolder f :=
  ⟨lf.ncoders, lf.simple, lf.coders, lf.pairs, lf.nsizes, lf.sizes⟩

theorem coderFlag_masks (c : Coder) (h : c.method.length < 16) :
    coderFlag c &&& 0xF = c.method.length ∧
    (((coderFlag c &&& 0x10) = 0x10) ↔ isSimple c = false) ∧ (((coderFlag c &&& 0x20) = 0x20) ↔ c.props.isSome = true) := by
  obtain ⟨-, h2, h3, h4⟩ := coderFlag_spec c h
  obtain ⟨m1, m2, m3⟩ := flag_bits (coderFlag c)
  exact ⟨m1.trans h2, m2.trans h3, m3.trans h4⟩

theorem readCoder_parses (c : Coder) (wf : WFCoder c) (hs : c.numIn = 1 ∧ c.numOut = 1) (hid : c.method ≠ [])
    (hp63 : ∀ p, c.props = some p → p.length < 2 ^ 63) : Parses readCoder (coderBytes c) c := by
  have hsimple : isSimple c = true := by simp [isSimple, hs.1, hs.2]
  obtain ⟨h1, h2, h3⟩ := coderFlag_masks c wf.idlen
  have hc : c = { method := if c.method.length > 0 then c.method else [0], numIn := 1, numOut := 1, props := c.props } := by
    obtain ⟨m, i, o, pr⟩ := c
    obtain ⟨rfl, rfl⟩ : i = 1 ∧ o = 1 := hs
    rw [if_pos (List.length_pos_iff.mpr hid)]
  unfold readCoder coderBytes
  rw [and15_of_lt _ wf.idlen, List.take_length, if_pos hsimple, List.append_assoc, List.append_assoc]
  refine .bind (readByte_parses _) ?_
  rw [h1]
  refine .bind (readBytes_parses _ rfl) <|
    .bind (v := (1, 1)) (.if_neg (fun hx => by rw [h2.1 hx] at hsimple; cases hsimple) (.pure _)) <|
    .bind_nil (v := c.props) ?_ (.of_val (.pure _) hc.symm)
  cases hp : c.props with
  | none => exact .if_neg (fun hx => by rw [hp] at h3; cases h3.1 hx) (.pure _)
  | some p =>
    exact .if_pos (h3.2 (by rw [hp]; rfl)) <| .bind (pNumber_parses (wf.plen p hp)) <|
      .if_neg (Nat.not_le.2 (hp63 p hp)) <| .bind_nil (readBytes_parses _ rfl) (.pure _)

/-- what `Folder._read` reconstructs of a linear folder (sizes come later) -/
def readBackFolder (f : Folder) : Folder :=
  { coders := f.coders, bindpairs := f.bindpairs, packedIndices := [0], unpacksizes := f.unpacksizes,
    digestdefined := false, crc := none }

theorem filter_unbound_linear (k : Nat) (hk : 0 < k) (f0 : Folder) (hb : f0.bindpairs = linearPairs k) :
    (List.range k).filter (fun i => !findInBindPair f0 i) = [0] := by
  have hp : ∀ i, findInBindPair f0 i = decide (1 ≤ i ∧ i < k) := fun i => by
    unfold findInBindPair; rw [hb]; exact linearPairs_in k i
  -- index 0 passes the filter; no `i + 1 < k` does, each being the input of a pair (`linearPairs_in`)
  obtain ⟨k', rfl⟩ := Nat.exists_eq_succ_of_ne_zero (Nat.ne_of_gt hk)
  rw [List.range_succ_eq_map, List.filter_cons_of_pos (by rw [hp]; rfl), List.filter_map,
    List.filter_eq_nil_iff.2 fun i hi => by simp [hp, List.mem_range.1 hi]]
  rfl

/-- `Folder.get_unpack_size` of a chain of coders: the last coder's output, the one no bind pair consumes -/
theorem folderUnpackSize_linear (f : Folder) (k : Nat) (hk : 0 < k) (hb : f.bindpairs = linearPairs k)
    (hl : f.unpacksizes.length = k) : folderUnpackSize f = some (f.unpacksizes.getD (k - 1) 0) := by
  unfold folderUnpackSize
  -- py7zr searches from the last output down; the last, `k - 1`, is the output of no pair (`linearPairs_out`)
  obtain ⟨k', rfl⟩ := Nat.exists_eq_succ_of_ne_zero (Nat.ne_of_gt hk)
  simp only [hl, List.range_succ, List.reverse_append, List.reverse_cons, List.reverse_nil, List.nil_append,
    List.cons_append, List.find?_cons]
  have : (!findOutBindPair f k') = true := by
    unfold findOutBindPair; rw [hb, linearPairs_out]; simp
  simp [this, List.getD, List.getElem?_eq_getElem (show k' < f.unpacksizes.length by omega)]

theorem readFolder_parses (f : Folder) (wf : LinearFolder f) :
    Parses readFolder (writeFolder f) { readBackFolder f with unpacksizes := [] } := by
  have hk := wf.ncoders
  -- k simple coders: `totIn = totOut = k`, so k - 1 bind pairs, no packed indices written, and py7zr computes the one index `[0]`
  obtain ⟨hin, hout⟩ := wf.chain.tot
  rw [writeFolder_eq, if_neg (by omega), List.append_nil, List.append_assoc]
  unfold totIn at hin; unfold totOut at hout
  unfold readFolder
  refine .bind (pNumber_parses (by omega)) <| .bind ((repeatP_parses (dec := id) rfl fun c hc =>
    readCoder_parses c (wf.coders c hc) (wf.simple c hc) (wf.ids c hc) (wf.props c hc)).of_val (List.map_id _)) ?_
  rw [hin, hout]
  refine .bind_nil ((repeatP_parses (dec := id) (by rw [wf.pairs]; simp [linearPairs]) fun b hb => ?pair).of_val
    (List.map_id _)) <| .if_pos (by omega) <| .of_val (.pure _) ?_
  case pair =>
    obtain ⟨-, -, h1, h2⟩ := wf.chain.wf.bindRange b hb
    exact .bind (pNumber_parses h1) <| .bind_nil (pNumber_parses h2) (.pure _)
  rw [filter_unbound_linear f.coders.length hk.1 { coders := f.coders, bindpairs := f.bindpairs } wf.pairs]
  rfl

theorem readUnpackSizes_parses : ∀ (fs : List Folder), (∀ f ∈ fs, LinearFolder f) →
    Parses (readUnpackSizes (fs.map fun f => { readBackFolder f with unpacksizes := [] }))
      (fs.flatMap fun f => f.unpacksizes.flatMap writeNumber) (fs.map readBackFolder)
  | [], _ => .pure _
  | f :: fs, h => by
    have wf := h f List.mem_cons_self
    have hlen : f.unpacksizes.length = ((readBackFolder f).coders.map (·.numOut)).sum :=
      wf.nsizes.trans wf.chain.tot.2.symm
    rw [List.flatMap_cons]
    exact .bind (pNumbers_parses hlen wf.sizes) <|
      .bind_nil (readUnpackSizes_parses fs fun g hg => h g (List.mem_cons_of_mem _ hg)) (.pure _)

theorem readUnpackInfo_parses {folders : List Folder} (hn : folders.length < 2 ^ 64)
    (hwf : ∀ f ∈ folders, LinearFolder f) :
    Parses readUnpackInfo ((writeUnpackInfo folders).drop 1) (folders.map readBackFolder) := by
  rw [writeUnpackInfo_eq]
  change Parses _ ([0x0B] ++ _) _
  unfold readUnpackInfo
  exact .bind (read1_parses _) <| .if_neg (fun h => h rfl) <| .bind (pNumber_parses hn) <| .bind (readByte_parses _) <|
    .if_neg (fun h => h rfl) <| .bind (repeatP_parses rfl fun f hf => readFolder_parses f (hwf f hf)) <|
    .bind (read1_parses _) <| .if_neg (fun h => h rfl) <| .bind (readUnpackSizes_parses folders hwf) <|
    .bind_nil (read1_parses _) <| .bind_nil (.if_neg (by decide) (.pure _)) (.pure _)

theorem impl_reads_unpackinfo (folders : List Folder) (hn : folders.length < 2 ^ 64)
    (hwf : ∀ f ∈ folders, LinearFolder f) (rest : Bytes) :
    readUnpackInfo ((writeUnpackInfo folders).drop 1 ++ rest) = .ok (folders.map readBackFolder, rest) :=
  readUnpackInfo_parses hn hwf rest

/-- the reader's notion of "sizes tile the folders": `Folder.get_unpack_size` of each folder
    with sub-streams is the sum of its group -/
def ImplSizesOK : List Nat → List Folder → List Nat → Prop
  | [], _, sizes => sizes = []
  | _ :: _, [], _ => False
  | n :: ns, f :: fs, sizes =>
    n ≤ sizes.length ∧ (n = 0 ∨ folderUnpackSize f = some (sizes.take n).sum) ∧ ImplSizesOK ns fs (sizes.drop n)

theorem readSubSizes_parses : ∀ (nums : List Nat) (fs : List Folder) (sizes l : List Nat),
    ImplSizesOK nums fs sizes → subSizesToWrite nums sizes = some l → (∀ v ∈ sizes, v < 2 ^ 64) →
    Parses (readSubSizes nums fs) (l.flatMap writeNumber) sizes
  | [], _, _, _, hok, hw, _ => by cases hw; cases (show _ = [] from hok); exact .pure _
  | _ :: _, [], _, _, hok, _, _ => hok.elim
  | n :: ns, f :: fs, sizes, l, ⟨hlen, hsum, hrest⟩, hw, hv => by
    obtain ⟨r, hr, rfl⟩ := subSizesToWrite_cons hlen hw
    have ih := readSubSizes_parses ns fs (sizes.drop n) r hrest hr fun v h => hv v (List.mem_of_mem_drop h)
    unfold readSubSizes
    by_cases h0 : n = 0
    · subst h0; simpa using ih
    obtain ⟨hdl, hle, hcat⟩ := take_dropLast hlen h0
    rw [if_neg h0, List.flatMap_append, hsum.resolve_left h0]
    -- Python computes the last size of the folder by subtraction over the integers; it is not negative here
    refine .bind (pNumbers_parses hdl fun v h => hv v (List.mem_of_mem_take (List.dropLast_subset _ h))) <|
      .if_neg (Int.not_lt.2 (Int.sub_nonneg_of_le (Int.ofNat_le.2 hle))) <| .bind_nil ih <| .of_val (.pure _) ?_
    rw [Int.toNat_sub, hcat, List.take_append_drop]

/-- `SubstreamsInfo._read` keeps a 0 for the undefined entries -/
theorem zeroCrcs_parses (defined : List Bool) (crcs : List Nat) (hl : crcs.length = defined.length)
    (h : ∀ c ∈ crcs, c < 256 ^ 4) :
    Parses (defined.mapM fun d => if d then pFixed 4 else pure 0 : P (List Nat))
      ((defined.zip crcs).flatMap fun x => optBytes 4 (if x.1 then some x.2 else none))
      ((defined.zip crcs).map fun (d, c) => if d then c else 0) := by
  have := ParsesTo.mapM (f := fun d => if d then pFixed 4 else pure 0) (g := Prod.fst)
    (enc := fun x : Bool × Nat => optBytes 4 (if x.1 then some x.2 else none)) (dec := fun (d, c) => if d then c else 0)
    (xs := defined.zip crcs) fun (d, c) hx => by
      cases d
      · exact .pure _
      · exact pFixed_parses (h c (List.of_mem_zip hx).2)
  rwa [List.map_fst_zip (Nat.le_of_eq hl.symm)] at this

/-- no folder brings a digest of its own: every folder takes its `n` digests off the front of the vectors read -/
theorem assignDigests_none : ∀ (nums : List Nat) (fs : List Folder) (defined : List Bool) (crcs : List Nat),
    nums.length = fs.length → (∀ f ∈ fs, f.digestdefined = false) → defined.length = nums.sum → crcs.length = nums.sum →
    assignDigests nums fs defined crcs = some (defined, crcs)
  | [], _, defined, crcs, _, _, h1, h2 => by
    rw [List.eq_nil_of_length_eq_zero h1, List.eq_nil_of_length_eq_zero h2]; rfl
  | _ :: _, [], _, _, hl, _, _, _ => by cases hl
  | n :: ns, f :: fs, defined, crcs, hl, hd, h1, h2 => by
    rw [List.sum_cons] at h1 h2
    have ih := assignDigests_none ns fs (defined.drop n) (crcs.drop n) (Nat.succ.inj hl)
      (fun g hg => hd g (List.mem_cons_of_mem _ hg))
      (by rw [List.length_drop, h1, Nat.add_sub_cancel_left]) (by rw [List.length_drop, h2, Nat.add_sub_cancel_left])
    have hlt : ¬ (defined.length < n ∨ crcs.length < n) := by omega
    unfold assignDigests
    rw [if_neg (fun h => by rw [hd f List.mem_cons_self] at h; exact Bool.false_ne_true h.2.1), if_neg hlt, ih]
    show some (defined.take n ++ defined.drop n, crcs.take n ++ crcs.drop n) = _
    rw [List.take_append_drop, List.take_append_drop]

/-- what `SubstreamsInfo._read` reconstructs -/
def readBackSub (s : SubStreams) (sizes : List Nat) : SubStreams :=
  { numUnpack := s.numUnpack,
    unpacksizes := if s.numUnpack.any (· > 1) then some sizes else none,
    digestsdefined := if s.digestsdefined.any id then s.digestsdefined else List.replicate s.numUnpack.sum false,
    digests := if s.digestsdefined.any id then (s.digestsdefined.zip s.digests).map (fun (d, c) => if d then c else 0)
               else List.replicate s.numUnpack.sum 0 }

theorem readBackSub_all_defined (s : SubStreams) (sizes : List Nat) (hd : s.digestsdefined = List.replicate s.numUnpack.sum true)
    (hl : s.digests.length = s.numUnpack.sum) :
    (readBackSub s sizes).digestsdefined = s.digestsdefined ∧ (readBackSub s sizes).digests = s.digests := by
  unfold readBackSub
  cases hs : s.numUnpack.sum with
  | zero => rw [hs] at hd hl; simp [hd, List.eq_nil_of_length_eq_zero hl]
  | succ k =>
    rw [hs] at hd hl
    have hany : s.digestsdefined.any id = true := by rw [hd]; simp [List.replicate_succ]
    simp only [hany, if_true, true_and]
    rw [hd, zip_replicate_left true _ _ hl]; simp [Function.comp_def]

theorem readSubStreams_parses (total : Nat) (s : SubStreams) (fs : List Folder) (bytes : Bytes)
    (hcount : s.numUnpack.sum ≤ total * 8)
    (hw : writeSubStreams s = some bytes) (hne : s.numUnpack ≠ [])
    (hlen : s.numUnpack.length = fs.length) (hdd : ∀ f ∈ fs, f.digestdefined = false)
    (hn : ∀ n ∈ s.numUnpack, n < 2 ^ 64)
    (sizes : List Nat) (hs : s.unpacksizes = some sizes) (hok : ImplSizesOK s.numUnpack fs sizes)
    (hv : ∀ v ∈ sizes, v < 2 ^ 64)
    (hdl : s.digestsdefined.length = s.numUnpack.sum) (hcl : s.digests.length = s.numUnpack.sum)
    (hc : ∀ c ∈ s.digests, c < 256 ^ 4) :
    Parses (readSubStreams total fs) (bytes.drop 1) (readBackSub s sizes) := by
  obtain ⟨l, hl, rfl⟩ := writeSubStreams_some hw hne
  change Parses _ ([numId s] ++ _) _
  unfold readSubStreams
  refine .bind (read1_parses _) <| .bind (v := (s.numUnpack, some (sizeId s))) ?nums <|
    .bind (v := (if s.numUnpack.any (· > 1) then some sizes else none, some (digId s))) ?sizes <|
    .bind_nil (v := (if s.digestsdefined.any id then s.digestsdefined else [],
      if s.digestsdefined.any id then (s.digestsdefined.zip s.digests).map (fun (d, c) => if d then c else 0) else [],
      some 0)) ?digests <| .if_neg (fun h => h rfl) ?fin
  case nums =>
    -- NumUnpackStream: present unless every folder has exactly one stream
    unfold numId
    by_cases hsolid : s.numUnpack.any (· ≠ 1) = true
    · rw [if_pos hsolid, if_pos hsolid]
      exact .if_pos rfl <| .bind (pNumbers_parses hlen hn) <| .if_neg (Nat.not_lt.2 hcount) <|
        .bind_nil (read1_parses _) (.pure _)
    · rw [if_neg hsolid, if_neg hsolid, ← hlen, ← all_one_replicate _ (eq_false_of_ne_true hsolid)]
      exact .if_neg (fun h => sizeId_ne s (Option.some.inj h)) (.pure _)
  case sizes =>
    unfold sizeId
    by_cases hmulti : s.numUnpack.any (· > 1) = true
    · obtain ⟨sizes', hs', hl'⟩ := hl hmulti
      cases hs.symm.trans hs'
      rw [if_pos hmulti, if_pos hmulti, if_pos hmulti]
      exact .if_pos rfl <| .bind (readSubSizes_parses _ _ _ _ hok hl' hv) <| .bind_nil (read1_parses _) (.pure _)
    · rw [if_neg hmulti, if_neg hmulti, if_neg hmulti]
      exact .if_neg (fun h => digId_ne s (Option.some.inj h)) (.pure _)
  case digests =>
    unfold digId
    by_cases hany : s.digestsdefined.any id = true
    · -- no folder has a digest of its own (`hdd`): py7zr expects one per sub-stream and `assignDigests` returns the vectors as read
      rw [if_pos hany, if_pos hany, if_pos hany, if_pos hany, crcBytes_zip_filter,
        map_zip_fst (Nat.le_of_eq hlen) fun x hx => by simp [hdd _ (List.of_mem_zip hx).2], ← hdl]
      refine .if_pos rfl <| .bind (pBools_parses _ true rfl) <|
        .bind (zeroCrcs_parses _ _ (hcl.trans hdl.symm) hc) ?_
      rw [assignDigests_none s.numUnpack fs _ _ hlen hdd hdl (by simp [hdl, hcl])]
      exact .bind_nil (read1_parses _) (.pure _)
    · rw [if_neg hany, if_neg hany, if_neg hany, if_neg hany]
      exact .if_neg (by decide) (.pure _)
  case fin =>
    unfold readBackSub
    by_cases hany : s.digestsdefined.any id = true
    · simp only [if_pos hany]
      exact .if_neg (fun h => by rw [List.isEmpty_iff.mp h] at hany; cases hany) (.pure _)
    · simp only [if_neg hany]
      exact .if_pos rfl (.pure _)

theorem impl_reads_substreams (total : Nat) (s : SubStreams) (fs : List Folder) (bytes rest : Bytes)
    (hcount : s.numUnpack.sum ≤ total * 8)
    (hw : writeSubStreams s = some bytes) (hne : s.numUnpack ≠ [])
    (hlen : s.numUnpack.length = fs.length) (hdd : ∀ f ∈ fs, f.digestdefined = false)
    (hn : ∀ n ∈ s.numUnpack, n < 2 ^ 64)
    (sizes : List Nat) (hs : s.unpacksizes = some sizes) (hok : ImplSizesOK s.numUnpack fs sizes)
    (hv : ∀ v ∈ sizes, v < 2 ^ 64)
    (hdl : s.digestsdefined.length = s.numUnpack.sum) (hcl : s.digests.length = s.numUnpack.sum)
    (hc : ∀ c ∈ s.digests, c < 256 ^ 4) :
    readSubStreams total fs (bytes.drop 1 ++ rest) = .ok (readBackSub s sizes, rest) :=
  readSubStreams_parses total s fs bytes hcount hw hne hlen hdd hn sizes hs hok hv hdl hcl hc rest

end SevenZ
