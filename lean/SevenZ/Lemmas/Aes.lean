/- The AES residue buffers: every cipher call feeds the buffered bytes plus a prefix of the new data in
   whole blocks and keeps fewer than 16 bytes (`AesInv.feed`); compress and flush are instances, and decompress on chunks of at
   least a block buffers as compress does. -/
import SevenZ.Model.Aes
namespace SevenZ
open Impl

theorem flatten_len_mod (l : List Bytes) (h : ∀ c ∈ l, c.length % 16 = 0) : l.flatten.length % 16 = 0 := by
  induction l with
  | nil => rfl
  | cons c cs ih =>
    have ⟨hc, hcs⟩ := List.forall_mem_cons.1 h
    rw [List.flatten_cons, List.length_append, Nat.add_mod, hc, ih hcs]

/-- a cut `k` into `D` new bytes that, with the `L` buffered ones, reaches the last block boundary of
    `L + D`: it lies inside the new data and leaves less than a block -/
theorem blockCut {L D k : Nat} (hk : L + k = (L + D) / 16 * 16) : k ≤ D ∧ D - k < 16 := by
  omega

/-- what the cipher has seen, followed by the buffer, is the input so far; the cipher has seen
    whole blocks only and less than a block is buffered -/
structure AesInv (st : AesState) (input : Bytes) : Prop where
  eq : st.fed.flatten ++ st.buf = input
  lt : st.buf.length < 16
  blocks : ∀ c ∈ st.fed, c.length % 16 = 0

namespace AesInv
variable {st : AesState} {input : Bytes}

theorem init : AesInv {} [] := ⟨rfl, by decide, nofun⟩

theorem buf_mod (h : AesInv st input) : st.buf.length % 16 = input.length % 16 := by
  rw [← h.eq, List.length_append, Nat.add_mod, flatten_len_mod _ h.blocks, Nat.zero_add, Nat.mod_mod]

theorem buf_nil (h : AesInv st input) (hm : input.length % 16 = 0) : st.buf = [] :=
  List.eq_nil_of_length_eq_zero (by rw [← Nat.mod_eq_of_lt h.lt, h.buf_mod, hm])

theorem done (h : AesInv st input) (hb : st.buf = []) :
    st.fed.flatten = input ∧ (∀ c ∈ st.fed, c.length % 16 = 0) ∧ st.buf = [] :=
  ⟨by rw [← h.eq, hb, List.append_nil], h.blocks, hb⟩

/-- Every cipher call of the model is this step: the buffer and a prefix `a` of the new data,
    together whole blocks, go to the cipher; the rest `b` is kept. -/
theorem feed (h : AesInv st input) {a b data : Bytes} (hd : a ++ b = data)
    (ha : (st.buf.length + a.length) % 16 = 0) (hb : b.length < 16) :
    AesInv { buf := b, fed := st.fed ++ [st.buf ++ a] } (input ++ data) where
  eq := by rw [List.flatten_concat, ← hd, ← h.eq]; simp only [List.append_assoc]
  lt := hb
  blocks := List.forall_mem_append.2 ⟨h.blocks, List.forall_mem_singleton.2 (by rwa [List.length_append])⟩

theorem keep (h : AesInv st input) (data : Bytes) (hl : st.buf.length + data.length < 16) :
    AesInv { st with buf := st.buf ++ data } (input ++ data) where
  eq := by rw [← h.eq, List.append_assoc]
  lt := by rwa [List.length_append]
  blocks := h.blocks

theorem compress (h : AesInv st input) (data : Bytes) : AesInv (aesCompress st data) (input ++ data) := by
  simp only [aesCompress]
  split
  · next c => exact h.feed (List.append_nil data) c.2 (by decide)
  next c1 =>
  split
  · next c =>
    -- the cut `nextpos - len(buf)`: buffer and prefix together end at the block boundary `nextpos`
    have hk := Nat.add_sub_cancel' (show st.buf.length ≤ (st.buf.length + data.length) / 16 * 16 by have := h.lt; omega)
    have ⟨hle, hlt⟩ := blockCut hk
    exact h.feed (List.take_append_drop _ data)
      (by rw [List.length_take, Nat.min_eq_left hle, hk]; exact Nat.mul_mod_left _ _)
      (by rwa [List.length_drop])
  · next c =>
    -- not above 16 (`c`), and not 16 itself (`c1`: 16 % 16 = 0)
    exact h.keep data (by omega)

theorem flush (h : AesInv st input) :
    AesInv (aesFlush st) (input ++ List.replicate ((16 - input.length % 16) % 16) 0) ∧
      (aesFlush st).buf = [] := by
  rw [← h.buf_mod]
  simp only [aesFlush]
  split
  · next hpos =>
    -- `len(buf) < 16`, so the padding is `16 - len(buf)` and fills the block
    have hpad : (st.buf.length + (16 - st.buf.length % 16) % 16) % 16 = 0 := by
      rw [Nat.mod_eq_of_lt h.lt, Nat.mod_eq_of_lt (Nat.sub_lt (by decide) hpos),
        Nat.add_sub_cancel' (Nat.le_of_lt h.lt)]
    exact ⟨h.feed (List.append_nil _) (by rwa [List.length_replicate]) (by decide), rfl⟩
  · next hpos =>
    have hb : st.buf.length = 0 := Nat.eq_zero_of_not_pos hpos
    rw [hb]
    exact ⟨by rwa [List.replicate_zero, List.append_nil], List.eq_nil_of_length_eq_zero hb⟩

end AesInv

def aesRun (st : AesState) : List Bytes → AesState
  | [] => st
  | x :: xs => aesRun (aesCompress st x) xs

theorem AesInv.run (xs : List Bytes) : ∀ {st : AesState} {input : Bytes}, AesInv st input →
    AesInv (aesRun st xs) (input ++ xs.flatten) := by
  induction xs with
  | nil => intro st input h; rwa [List.flatten_nil, List.append_nil]
  | cons x xs ih =>
    intro st input h
    rw [List.flatten_cons, ← List.append_assoc]
    exact ih (h.compress x)

theorem aes_feed_eq_pad16 (xs : List Bytes) :
    let st := aesFlush (aesRun {} xs)
    st.fed.flatten = xs.flatten ++ List.replicate ((16 - xs.flatten.length % 16) % 16) 0 ∧
    (∀ c ∈ st.fed, c.length % 16 = 0) ∧ st.buf = [] :=
  have ⟨h, hb⟩ := (AesInv.init.run xs).flush
  h.done hb

theorem pyFrom_natCast (data : Bytes) (k : Nat) : pyFrom data k = data.drop k := by
  rw [pyFrom, if_pos (Int.natCast_nonneg k), Int.toNat_natCast]

theorem pyUpTo_natCast (data : Bytes) (k : Nat) : pyUpTo data k = data.take k := by
  rw [pyUpTo, if_pos (Int.natCast_nonneg k), Int.toNat_natCast]

/-- on a chunk of at least one block the decompressor buffers exactly as the compressor does:
    the cut `nextpos - len(buf)` is not negative -/
theorem aesDecompress_eq_aesCompress (st : AesState) {data : Bytes} (hd : data.length ≥ 16) :
    aesDecompress st data = aesCompress st data := by
  have hpos : data.length > 0 := Nat.lt_of_lt_of_le (by decide) hd
  have hge : st.buf.length + data.length ≥ 16 := Nat.le_trans hd (Nat.le_add_left ..)
  simp only [aesDecompress, aesCompress]
  by_cases hm : (st.buf.length + data.length) % 16 = 0
  · rw [if_pos ⟨hpos, hm⟩, if_pos ⟨hge, hm⟩]
  · -- `len(buf) + 16 ≤ len(buf) + len(data) < nextpos + 16`, so the cut is not negative
    have hcut : st.buf.length ≤ (st.buf.length + data.length) / 16 * 16 :=
      Nat.le_of_lt (Nat.lt_of_add_lt_add_right
        (Nat.lt_of_le_of_lt (Nat.add_le_add_left hd _) (Nat.lt_div_mul_add (by decide))))
    rw [if_neg (hm ∘ And.right), if_neg (hm ∘ And.right), if_pos hpos,
      if_pos (Nat.lt_of_le_of_ne hge fun e => hm (e ▸ rfl)), ← Int.ofNat_sub hcut, pyFrom_natCast, pyUpTo_natCast]

def aesDecRun (st : AesState) : List Bytes → AesState
  | [] => st
  | x :: xs => aesDecRun (aesDecompress st x) xs

theorem aesDecRun_eq_aesRun (xs : List Bytes) (hx : ∀ c ∈ xs, c.length ≥ 16) :
    ∀ st, aesDecRun st xs = aesRun st xs := by
  induction xs with
  | nil => intro _; rfl
  | cons x xs ih =>
    have ⟨h, hxs⟩ := List.forall_mem_cons.1 hx
    intro st
    rw [aesDecRun, aesRun, aesDecompress_eq_aesCompress st h, ih hxs]

theorem aes_decrypt_feed (xs : List Bytes) (hx : ∀ c ∈ xs, c.length ≥ 16) (htot : xs.flatten.length % 16 = 0) :
    let st := aesDecRun {} xs
    st.fed.flatten = xs.flatten ∧ (∀ c ∈ st.fed, c.length % 16 = 0) ∧ st.buf = [] := by
  rw [aesDecRun_eq_aesRun xs hx]
  have h := AesInv.init.run xs
  exact h.done (h.buf_nil htot)

end SevenZ
