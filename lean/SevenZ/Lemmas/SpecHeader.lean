/-
The strict reader on the StreamsInfo section and on the whole raw header the writer model emits
(`Impl.writeStreams`, `Impl.writeHeaderRaw`): composition of the section theorems, with the
agreement of counts between sections.
-/
import SevenZ.Lemmas.SpecFolder
import SevenZ.Lemmas.SpecSub
import SevenZ.Lemmas.SpecFiles
namespace SevenZ
open Impl Spec

/-- a StreamsInfo record as py7zr's writer holds it when the archive has data: all three
    sections present, counts agreeing between them, sub-stream sizes tiling each folder -/
structure WFStreams (s : Streams) (p : PackInfo) (fs : List Folder) (ss : SubStreams) (sizes : List Nat) : Prop where
  hp : s.packinfo = some p
  hf : s.folders = some fs
  hs : s.substreams = some ss
  pack : WFPack p
  nfolders : fs.length < 2 ^ 64
  fne : fs ≠ []
  folders : ∀ f ∈ fs, WFFolder f
  packedCount : (fs.map (fun f => (packedOf f).length)).sum = p.packsizes.length
  nlen : ss.numUnpack.length = fs.length
  nums : ∀ n ∈ ss.numUnpack, n < 2 ^ 64
  usizes : ss.unpacksizes = some sizes
  tiles : SizesOK ss.numUnpack (fs.map toSFolder) sizes
  sizesBound : ∀ v ∈ sizes, v < 2 ^ 64
  ddlen : ss.digestsdefined.length = ss.numUnpack.sum
  dlen : ss.digests.length = ss.numUnpack.sum
  dbound : ∀ c ∈ ss.digests, c < 256 ^ 4

def expectedStreams (p : PackInfo) (fs : List Folder) (ss : SubStreams) (sizes : List Nat) : SStreams :=
  { pack := some (expectedPack p), folders := fs.map toSFolder, numUnpack := ss.numUnpack,
    subSizes := sizes, subCrcs := expectedSubCrcs ss }

theorem sStreams_parses {s : Streams} {p : PackInfo} {fs : List Folder} {ss : SubStreams} {sizes : List Nat}
    (wf : WFStreams s p fs ss sizes) {bytes : Bytes} (hw : writeStreams s = some bytes) :
    Parses sStreams (bytes.drop 1) (expectedStreams p fs ss sizes) := by
  obtain ⟨a, c, ha, hc, rfl⟩ := writeStreams_some wf.hp wf.hf wf.hs hw
  have hne : ss.numUnpack ≠ [] := List.ne_nil_of_length_pos (wf.nlen ▸ List.length_pos_iff.2 wf.fne)
  have hcount : (List.map (fun f => f.packed.length) (fs.map toSFolder)).sum = (expectedPack p).sizes.length := by
    simp only [List.map_map, Function.comp_def, toSFolder, expectedPack]
    exact wf.packedCount
  rw [writePackInfo_head ha, writeSubStreams_head hc hne, writeUnpackInfo_head fs]
  unfold sStreams
  exact .of_eq (.bind (sByte_parses 0x06 _) <|
    .bind (.if_pos rfl <| .thenId (sPackInfo_parses ha wf.pack) (sByte_parses 0x07 _)) <|
    .bind (.if_pos rfl <| .thenId (sUnpackInfo_parses fs wf.nfolders wf.folders) (sByte_parses 0x08 _)) <|
    .bind_nil (.if_pos rfl <| .if_neg (by decide) <| .thenId (sSubStreams_parses ss (fs.map toSFolder) c hc hne
      (by simpa using wf.nlen) (List.forall_mem_map.2 fun _ _ => rfl)
      wf.nums sizes wf.usizes wf.tiles wf.sizesBound wf.ddlen wf.dlen wf.dbound) (sByte_parses 0 _)) <|
    .if_neg (fun h => h rfl) <| .if_neg (by simpa using hcount) (.pure _)) (by simp only [List.append_assoc]; rfl)

/-- what the strict reader must recover from a written raw header -/
def expectedHeader (p : PackInfo) (fs : List Folder) (ss : SubStreams) (sizes : List Nat) (fi : FilesInfo) : SHeader :=
  { streams := some (expectedStreams p fs ss sizes), files := fi.files.map toSFile, hasFiles := true }

theorem readTop_raw (bs : Bytes) : readTop ([0x01] ++ bs) = (sHeaderBody bs).map (fun r => .raw r.1) := rfl

theorem spec_reads_header (h : Header) (s : Streams) (p : PackInfo) (fs : List Folder) (ss : SubStreams)
    (sizes : List Nat) (fi : FilesInfo) (hs : h.mainStreams = some s) (hfi : h.filesInfo = some fi)
    (wf : WFStreams s p fs ss sizes) (wff : WFFiles fi) (pos : Nat) (bytes : Bytes)
    (hw : writeHeaderRaw true h pos = some bytes) :
    readTop bytes = .ok (.raw (expectedHeader p fs ss sizes fi)) := by
  obtain ⟨ms, hm, rfl⟩ := writeHeaderRaw_some hs hfi hw
  obtain ⟨a, c, -, -, hms⟩ := writeStreams_some wf.hp wf.hf wf.hs hm
  generalize pos + 1 + ms.length = q
  have hbody : ParsesTo sHeaderBody (ms ++ (writeFilesInfo true fi q ++ [0x00])) (do
      if (← get) ≠ [] then sfail "bytes after the end of the header" else pure (expectedHeader p fs ss sizes fi)) := by
    rw [show ms = [0x04] ++ ms.drop 1 by rw [hms]; rfl, writeFilesInfo_head fi q]
    unfold sHeaderBody
    exact .of_eq (.bind (sByte_parses 0x04 _) <| .bind (.if_pos rfl <| .thenId (sStreams_parses wf hm) (sByte_parses 0x05 _)) <|
      .bind_nil (.if_pos rfl <| .thenId (sFilesInfo_parses wff q) (sByte_parses 0x00 _)) <| .if_neg (fun h => h rfl) (.refl _))
      (by simp only [List.append_assoc])
  rw [readTop_raw, ← List.append_nil (ms ++ _), hbody]
  rfl

end SevenZ
