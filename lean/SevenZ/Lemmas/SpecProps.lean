/-
The primitives of the strict reader (`Spec/Format.lean`) as `Parses` facts on what the writer
model emits: numbers, fixed-width fields, repetitions, sized properties, boolean vectors and the
optional fixed-width vectors (digests, times, attributes).
-/
import SevenZ.Lemmas.WrittenStreams
import SevenZ.Lemmas.WrittenFiles
import SevenZ.Lemmas.Parses
import SevenZ.Spec.Format
namespace SevenZ
open Impl Spec

theorem sByte_parses (b : Nat) (what : String) : Parses (sByte what) [b] b := fun _ => rfl

theorem sNumber_parses {v : Nat} (hv : v < 2 ^ 64) (what : String) : Parses (sNumber what) (writeNumber v) v :=
  .of_ok fun rest => by simp [sNumber, number_spec_roundtrip v hv rest]

theorem sTake_parses {n : Nat} (a : Bytes) (hn : a.length = n) (what : String) : Parses (sTake n what) a a :=
  .of_ok fun rest => by simp [sTake, ← hn]

theorem sFixed_parses {v k : Nat} (hv : v < 256 ^ k) (what : String) : Parses (sFixed k what) (leBytes v k) v :=
  .of_ok fun rest => by
    have hlen := leBytes_length v k
    unfold sFixed
    rw [if_neg (by simp [hlen]), List.take_left' hlen, List.drop_left' hlen, ofLE_leBytes_lt v k hv]

theorem sExpect_parses (id : Nat) (what : String) : Parses (sExpect id what) [id] () :=
  .bind (sByte_parses id what) (by rw [if_pos rfl]; exact .pure ())

theorem sRepeat_parses {α β} {p : SP β} {enc : α → Bytes} {dec : α → β} {n : Nat} {xs : List α}
    (hn : xs.length = n) (h : ∀ x ∈ xs, Parses p (enc x) (dec x)) :
    Parses (sRepeat n p) (xs.flatMap enc) (xs.map dec) :=
  ParsesTo.replicateM (rep := (sRepeat · p)) rfl (fun _ => rfl) hn h

theorem sNumbers_parses {n : Nat} {xs : List Nat} (hn : xs.length = n) (hv : ∀ v ∈ xs, v < 2 ^ 64) (what : String) :
    Parses (sRepeat n (sNumber what)) (xs.flatMap writeNumber) xs :=
  (sRepeat_parses (dec := id) hn fun v h => sNumber_parses (hv v h) what).of_val (List.map_id _)

/-- `sSized` hands `p` exactly the property's bytes: `p` must read all of them -/
theorem sSized_of_run {α} {p : SP α} {body : Bytes} {a : α} {n : Nat} (h : p body = .ok (a, [])) (hn : body.length = n)
    (what : String) : Parses (sSized n what p) body a :=
  .of_ok fun rest => by simp [sSized, ← hn, h]

theorem sSized_parses {α} {p : SP α} {body : Bytes} {a : α} {n : Nat} (h : Parses p body a) (hn : body.length = n)
    (what : String) : Parses (sSized n what p) body a :=
  sSized_of_run h.run_nil hn what

theorem sBitField_parses {n : Nat} (bs : List Bool) (hn : bs.length = n) (what : String) :
    Parses (sBitField n what) (packBits bs) bs := by
  subst hn
  obtain ⟨pad, hp⟩ := packBits_bits8 bs
  refine (ParsesTo.bind (sTake_parses _ (packBits_length bs) what) ?_).of_eq
    (List.append_nil _)
  change Parses (if (((packBits bs).flatMap bits8).drop bs.length).any id then _
    else pure (((packBits bs).flatMap bits8).take bs.length)) _ _
  rw [hp, List.drop_left, List.take_left, if_neg (by simp)]
  exact .pure bs

theorem sBoolList_parses {n : Nat} (bs : List Bool) (hn : bs.length = n) (what : String) :
    Parses (sBoolList n what) (writeBools bs true) bs := by
  subst hn
  unfold writeBools
  by_cases hall : bs.all id = true
  · rw [Bool.true_and, if_pos hall]
    exact .bind (sByte_parses 1 what) (by
      rw [if_neg (by decide), if_pos rfl, all_id_replicate bs hall]; exact .pure bs)
  · rw [Bool.true_and, if_neg hall, if_pos rfl]
    exact .bind (sByte_parses 0 what) (by rw [if_pos rfl]; exact sBitField_parses bs rfl what)

/-! ### optional fixed-width vectors (digests, times, attributes) -/

/-- every loop of the strict reader over "a value for each defined entry" -/
theorem sOptFixed_parses {γ} {w : Nat} {val : γ → Option Nat} {xs : List γ}
    (hv : ∀ x ∈ xs, ∀ v, val x = some v → v < 256 ^ w) (what : String) :
    Parses ((xs.map fun x => (val x).isSome).mapM
        (fun d => if d then (do let c ← sFixed w what; pure (some c)) else pure none : Bool → SP (Option Nat)))
      (xs.flatMap fun x => optBytes w (val x)) (xs.map val) :=
  ParsesTo.mapM fun x hx => by
    cases h : val x with
    | none => exact .pure none
    | some v =>
      refine .of_eq ?_ (List.append_nil _)
      rw [Option.isSome_some, if_pos rfl]
      exact .bind (sFixed_parses (hv x hx v h) what) (.pure _)

theorem sCrcs_parses (defined : List Bool) (crcs : List Nat) (hl : crcs.length = defined.length)
    (hc : ∀ c ∈ crcs, c < 256 ^ 4) (what : String) :
    Parses (defined.mapM (fun d => if d then (do let c ← sFixed 4 what; pure (some c)) else pure none : Bool → SP (Option Nat)))
      ((defined.zip crcs).flatMap fun x => optBytes 4 (if x.1 then some x.2 else none))
      ((defined.zip crcs).map fun x => if x.1 then some x.2 else none) := by
  have := sOptFixed_parses (w := 4) (val := fun x : Bool × Nat => if x.1 then some x.2 else none) (xs := defined.zip crcs)
    (fun x hx v hv => hc v (by
      cases hd : x.1 <;> simp [hd] at hv
      exact hv ▸ (List.of_mem_zip hx).2)) what
  rwa [map_zip_fst (Nat.le_of_eq hl.symm) fun x _ => by cases x.1 <;> rfl] at this

def slotOpt : Slot Nat → Option Nat
  | .val t => some t
  | _ => none

theorem isVal_eq_isSome : (Slot.isVal : Slot Nat → Bool) = fun s => (slotOpt s).isSome := by
  funext s; cases s <;> rfl

theorem slotBytes_eq (w : Nat) : slotBytes w = fun s => optBytes w (slotOpt s) := by
  funext s; cases s <;> rfl

theorem sOptVector_parses {n w : Nat} (slots : List (Slot Nat)) (hn : slots.length = n)
    (hv : ∀ s ∈ slots, ∀ t, s = .val t → t < 256 ^ w) (what : String) :
    Parses (sOptVector n w what) (vectorBody w slots) (slots.map slotOpt) := by
  refine .bind (sBoolList_parses _ (by simpa using hn) what) <| .bind (sByte_parses 0 _) <| .if_neg (by decide) ?_
  rw [isVal_eq_isSome, slotBytes_eq]
  exact sOptFixed_parses (fun s hs t ht => hv s hs t (by cases s <;> simp_all [slotOpt])) what

end SevenZ
