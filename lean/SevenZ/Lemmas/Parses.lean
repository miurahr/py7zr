/-
`ParsesTo p bs q`: the parser `p` consumes exactly `bs` off the front of any input and goes on as
`q` on what follows; `Parses p bs v`, the case `q = pure v`: it returns `v` there.  The
writer-conformance theorems, for the strict reader (`Spec.SP`) and for the model of py7zr's reader
(`P`), are statements of the second form, the steps of their fuelled property loops of the first;
the rules below compose them along a do-block, one link per field, peeling the continuation and
never rewriting it.
-/
import SevenZ.Model.Number
namespace SevenZ

/-- a parser over the remaining bytes with errors in `ε`: `P = Prs Err`, `SP = Prs String` -/
abbrev Prs (ε α : Type) := StateT Bytes (Except ε) α

def ParsesTo {ε α} (p : Prs ε α) (bs : Bytes) (q : Prs ε α) : Prop :=
  ∀ rest, p (bs ++ rest) = q rest

abbrev Parses {ε α} (p : Prs ε α) (bs : Bytes) (v : α) : Prop :=
  ParsesTo p bs (pure v)

/-! `get` and `set` look at the whole remaining input, and so have no `Parses` form -/

theorem get_bind_run {ε β} (f : Bytes → Prs ε β) (s : Bytes) : (get >>= f) s = f s s := rfl

theorem set_bind_run {ε β} (f : PUnit → Prs ε β) (s s' : Bytes) : (set s' >>= f) s = f ⟨⟩ s' := rfl

namespace ParsesTo
variable {ε α β : Type} {p : Prs ε α} {f : α → Prs ε β} {q : Prs ε β} {bs b1 b2 : Bytes} {v : α}

theorem of_ok (h : ∀ rest, p (bs ++ rest) = .ok (v, rest)) : Parses p bs v := h

theorem run_nil (h : Parses p bs v) : p bs = .ok (v, []) := by
  have := h []; rwa [List.append_nil] at this

protected theorem refl (q : Prs ε β) : ParsesTo q [] q := fun _ => rfl

protected theorem pure (v : α) : Parses (pure v : Prs ε α) [] v := .refl _

protected theorem bind (h1 : Parses p b1 v) (h2 : ParsesTo (f v) b2 q) : ParsesTo (p >>= f) (b1 ++ b2) q :=
  fun rest => by
    show (do let (a, s) ← p (b1 ++ b2 ++ rest); f a s : Except ε _) = _
    rw [List.append_assoc, h1]
    exact h2 rest

/-- the last link: nothing is left for the continuation to consume -/
theorem bind_nil (h1 : Parses p bs v) (h2 : ParsesTo (f v) [] q) : ParsesTo (p >>= f) bs q :=
  List.append_nil bs ▸ ParsesTo.bind h1 h2

/-- one step of a computation, whatever comes after it -/
theorem step (h : Parses p bs v) (f : α → Prs ε β) : ParsesTo (p >>= f) bs (f v) :=
  h.bind_nil (.refl _)

theorem if_pos {c : Prop} [Decidable c] {t e : Prs ε β} (hc : c) (h : ParsesTo t bs q) :
    ParsesTo (if c then t else e) bs q := by rwa [_root_.if_pos hc]

theorem if_neg {c : Prop} [Decidable c] {t e : Prs ε β} (hc : ¬c) (h : ParsesTo e bs q) :
    ParsesTo (if c then t else e) bs q := by rwa [_root_.if_neg hc]

/-- the bytes are whatever the rules produce; their shape is compared once, at the end -/
theorem of_eq {p q : Prs ε β} (h : ParsesTo p b1 q) (e : b1 = b2) : ParsesTo p b2 q := e ▸ h

theorem of_val {v' : α} (h : Parses p bs v) (e : v = v') : Parses p bs v' := e ▸ h

/-- a section `p` and the id of what follows it, fetched by `rd`: how both readers' optional sections end -/
theorem thenId {ι γ} {rd : Prs ε ι} {g : α → ι → γ} {x : Nat} {i : ι} (h1 : Parses p b1 v) (hrd : Parses rd [x] i) :
    Parses (do let a ← p; let j ← rd; pure (g a j)) (b1 ++ [x]) (g v i) :=
  .bind h1 (.bind_nil hrd (.pure _))

/-- a loop over the concatenation of per-element encodings (`g` is what the loop sees of an element) -/
theorem mapM {γ δ} {f : δ → Prs ε β} {g : γ → δ} {enc : γ → Bytes} {dec : γ → β} :
    ∀ {xs : List γ}, (∀ x ∈ xs, Parses (f (g x)) (enc x) (dec x)) →
      Parses ((xs.map g).mapM f) (xs.flatMap enc) (xs.map dec)
  | [], _ => .pure _
  | x :: xs, h => by
    rw [List.map_cons, List.mapM_cons, List.flatMap_cons]
    exact .bind (h x List.mem_cons_self) (.bind_nil (mapM fun y hy => h y (List.mem_cons_of_mem _ hy)) (.pure _))

/-- `for _ in range(n)` with the same reader each time: `rep` is `Impl.repeatP · p` or `Spec.sRepeat · p` -/
theorem replicateM {γ} {rep : Nat → Prs ε (List α)} (h0 : rep 0 = pure [])
    (hs : ∀ n, rep (n + 1) = p >>= fun a => rep n >>= fun as => pure (a :: as))
    {enc : γ → Bytes} {dec : γ → α} {n : Nat} :
    ∀ {xs : List γ}, xs.length = n → (∀ x ∈ xs, Parses p (enc x) (dec x)) →
      Parses (rep n) (xs.flatMap enc) (xs.map dec)
  | [], rfl, _ => h0 ▸ .pure _
  | x :: xs, rfl, h => by
    rw [List.length_cons, hs, List.flatMap_cons]
    exact .bind (h x List.mem_cons_self)
      (.bind_nil (replicateM h0 hs rfl fun y hy => h y (List.mem_cons_of_mem _ hy)) (.pure _))

end ParsesTo

/-- A loop with fuel reads `bs` as `v` whenever the fuel is at least the number of bytes (every turn
    consumes one at least): the form in which the turns of the property loops compose. -/
def LoopParses {ε α} (loop : Nat → Prs ε α) (bs : Bytes) (v : α) : Prop :=
  ∀ fuel, bs.length ≤ fuel → Parses (loop fuel) bs v

namespace LoopParses
variable {ε α : Type} {loop loop' : Nat → Prs ε α} {block bs : Bytes} {v v' : α}

theorem step (hstep : ∀ fuel, ParsesTo (loop (fuel + 1)) block (loop' fuel)) (hb : 0 < block.length)
    (h : LoopParses loop' bs v) : LoopParses loop (block ++ bs) v
  | 0, hf => by rw [List.length_append] at hf; omega
  | fuel + 1, hf => fun rest => by
    rw [List.append_assoc, hstep fuel]
    exact h fuel (by rw [List.length_append] at hf; omega) rest

theorem of_val (h : LoopParses loop bs v) (e : v = v') : LoopParses loop bs v' := e ▸ h

end LoopParses
end SevenZ
