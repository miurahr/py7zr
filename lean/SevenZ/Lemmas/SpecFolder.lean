/-
The strict reader on the PackInfo and the Folder / UnpackInfo sections the writer model emits:
packed streams with any pattern of digests; coders of any shape (simple or complex, with or without
properties), bind pairs, packed-stream indices, per-coder unpack sizes, with or without folder CRCs.
-/
import SevenZ.Lemmas.SpecProps
namespace SevenZ
open Impl Spec

/-- what the strict reader must recover from a written PackInfo -/
def expectedPack (p : PackInfo) : SPack :=
  { packpos := p.packpos, sizes := p.packsizes,
    crcs := if p.digestdefined.foldl (· || ·) p.enableDigests
            then (p.digestdefined.zip p.crcs).map (fun (d, c) => if d then some c else none)
            else List.replicate p.numstreams none }

theorem sPackInfo_parses {p : PackInfo} {bytes : Bytes} (hw : writePackInfo p = some bytes) (wf : WFPack p) :
    Parses sPackInfo (bytes.drop 1) (expectedPack p) := by
  obtain ⟨hlen, hchk, rfl⟩ := writePackInfo_some hw
  change Parses _ (writeNumber p.packpos ++ _) _
  unfold sPackInfo expectedPack
  refine .bind (sNumber_parses wf.pos _) <| .bind (sNumber_parses wf.n _) <| .bind (sByte_parses 0x09 _) <|
    .bind (v := (p.packsizes, if p.digestdefined.foldl (· || ·) p.enableDigests = true then 0x0A else 0x00))
      (.if_pos rfl (.thenId (sNumbers_parses hlen.symm wf.sizes _) (sByte_parses _ _))) <|
    .if_neg (Decidable.not_not.2 hlen.symm) ?_
  by_cases hen : p.digestdefined.foldl (· || ·) p.enableDigests = true
  · have hdl := wf.defined hen
    have hcl : p.crcs.length = p.digestdefined.length := (hchk hen).1.trans hdl.symm
    rw [if_pos hen, if_pos hen, if_pos hen, ← hdl, crcBytes_by_index _ _ hcl]
    exact .bind_nil (.if_pos rfl <| .bind (sBoolList_parses _ rfl _) <| .bind (sCrcs_parses _ _ hcl wf.crcs _) <|
      .bind_nil (sByte_parses 0 _) (.pure _)) <| .if_neg (fun h => h rfl) (.pure _)
  · rw [if_neg hen, if_neg hen, if_neg hen]
    exact .bind_nil (.if_neg (by decide) (.pure _)) <| .if_neg (fun h => h rfl) (.pure _)

def toSCoder (c : Coder) : SCoder :=
  { method := c.method, numIn := c.numIn, numOut := c.numOut, props := c.props }

theorem sCoder_parses (c : Coder) (wf : WFCoder c) : Parses sCoder (coderBytes c) (toSCoder c) := by
  obtain ⟨h1, h2, h3, h4⟩ := coderFlag_spec c wf.idlen
  unfold sCoder coderBytes
  rw [and15_of_lt _ wf.idlen, List.take_length, List.append_assoc, List.append_assoc]
  refine .bind (sByte_parses _ _) <| .if_neg (Nat.not_le.2 h1) ?_
  rw [h2]
  refine .bind (sTake_parses _ rfl _) <| .bind (v := (c.numIn, c.numOut)) ?counts <|
    .bind_nil (v := c.props) ?props (.pure _)
  case counts =>
    by_cases hs : isSimple c = true
    · rw [if_pos hs]
      refine .if_neg (by rw [h3, hs]; decide) <| .of_val (.pure _) ?_
      simp only [isSimple, Bool.and_eq_true, decide_eq_true_eq] at hs
      rw [hs.1, hs.2]
    · rw [if_neg hs]
      exact .if_pos (h3.2 (eq_false_of_ne_true hs)) <| .bind (sNumber_parses wf.nin _) <|
        .bind_nil (sNumber_parses wf.nout _) (.pure _)
  case props =>
    cases hp : c.props with
    | none => exact .if_neg (by rw [h4, hp]; decide) (.pure _)
    | some p =>
      exact .if_pos (h4.2 (by rw [hp]; rfl)) <| .bind (sNumber_parses (wf.plen p hp) _) <|
        .bind_nil (sTake_parses _ rfl _) (.pure _)

def toSFolder (f : Folder) : SFolder :=
  { coders := f.coders.map toSCoder, bindpairs := f.bindpairs, packed := packedOf f,
    unpackSizes := f.unpacksizes, crc := none }

theorem sum_numIn (f : Folder) : ((f.coders.map toSCoder).map (·.numIn)).sum = totIn f := by
  simp [totIn, toSCoder, Function.comp_def]

theorem sum_numOut (f : Folder) : ((f.coders.map toSCoder).map (·.numOut)).sum = totOut f := by
  simp [totOut, toSCoder, Function.comp_def]

/-- the folder record as written (without sizes: those come in their own property) -/
theorem sFolder_parses (f : Folder) (wf : WFFolder f) :
    Parses sFolder (writeFolder f) { toSFolder f with unpackSizes := [] } := by
  rw [writeFolder_eq, List.append_assoc, List.append_assoc]
  unfold sFolder
  refine .bind (sNumber_parses (Nat.lt_of_le_of_lt wf.ncoders.2 (by decide)) _) <|
    .if_neg (Nat.ne_of_gt wf.ncoders.1) <| .if_neg (Nat.not_lt.2 wf.ncoders.2) <|
    .bind (sRepeat_parses rfl fun c hc => sCoder_parses c (wf.coders c hc)) ?_
  rw [sum_numIn, sum_numOut]
  refine .if_neg (Nat.ne_of_gt wf.outPos) <|
    .bind ((sRepeat_parses (dec := id) wf.nbind fun b hb => ?pair).of_val (List.map_id _)) <|
    .if_neg (Nat.not_lt.2 wf.inGe) <| .bind_nil (v := packedOf f) ?packed (.pure _)
  case pair =>
    obtain ⟨hb1, hb2, hb3, hb4⟩ := wf.bindRange b hb
    exact .bind (sNumber_parses hb3 _) <| .bind_nil (sNumber_parses hb4 _) <|
      .if_neg (fun h => h.elim (Nat.not_le.2 hb1) (Nat.not_le.2 hb2)) (.pure _)
  case packed =>
    have hpk := wf.packed
    unfold packedOf
    by_cases h1 : totIn f - (totOut f - 1) = 1
    · rw [if_pos h1] at hpk
      rw [if_pos h1, if_pos h1, if_neg (by have := wf.outPos; omega)]
      cases hf : (List.range (totIn f)).find? (fun i => !(f.bindpairs.any (fun p => p.1 = i))) with
      | none => rw [hf] at hpk; cases hpk
      | some i => exact .pure _
    · -- the writer emits the indices only if `totIn > totOut`; otherwise `totIn = totOut - 1` here and there are none to read
      rw [if_neg h1] at hpk
      rw [if_neg h1, if_neg h1]
      refine .of_eq (sNumbers_parses hpk.1 hpk.2 _) ?_
      split
      · rfl
      · rw [List.eq_nil_of_length_eq_zero (by have := wf.inGe; have := wf.outPos; omega : f.packedIndices.length = 0)]; rfl

theorem sFolderSizes_parses : ∀ (fs : List Folder), (∀ f ∈ fs, WFFolder f) →
    Parses (sFolderSizes (fs.map (fun f => { toSFolder f with unpackSizes := [] })))
      (fs.flatMap (fun f => f.unpacksizes.flatMap writeNumber)) (fs.map toSFolder)
  | [], _ => .pure _
  | f :: fs, h => by
    have wf := h f List.mem_cons_self
    rw [List.flatMap_cons]
    exact .bind (sNumbers_parses (by rw [wf.nsizes]; exact (sum_numOut f).symm) wf.sizes _) <|
      .bind_nil (sFolderSizes_parses fs fun g hg => h g (List.mem_cons_of_mem _ hg)) (.pure _)

def toSFolderCrc (f : Folder) : SFolder := { toSFolder f with crc := f.crc }

/-- The UnpackInfo section as `UnpackInfo.write` emits it after the id 0x07 — with the folder CRCs
    (`with_crcs=True`, the header stream's record) or without (py7zr never writes them for the
    archive's own folders): any number of folders, each with any legal coder graph, is accepted by
    the strict reader and decodes to the same coders, bind pairs, packed-stream indices, unpack
    sizes and CRCs. -/
theorem sUnpackInfo_parses_gen (folders : List Folder) (hn : folders.length < 2 ^ 64) (hwf : ∀ f ∈ folders, WFFolder f)
    (withCrcs : Bool) (hc : withCrcs = true → ∀ f ∈ folders, ∀ c, f.crc = some c → c < 256 ^ 4) :
    Parses sUnpackInfo
      ([0x0B] ++ (writeNumber folders.length ++ ([0x00] ++ (folders.flatMap writeFolder ++ ([0x0C] ++
        (folders.flatMap (fun f => f.unpacksizes.flatMap writeNumber) ++
          (if withCrcs then [0x0A] ++ (writeBools (folders.map (·.crc.isSome)) true ++
              ((folders.filterMap (·.crc)).flatMap (fun c => leBytes c 4) ++ [0x00]))
           else [0x00])))))))
      (folders.map (if withCrcs then toSFolderCrc else toSFolder)) := by
  unfold sUnpackInfo
  refine .bind (sExpect_parses _ _) <| .bind (sNumber_parses hn _) <| .bind (sByte_parses 0 _) <| .if_neg (fun h => h rfl) <|
    .bind (sRepeat_parses rfl fun f hf => sFolder_parses f (hwf f hf)) <| .bind (sExpect_parses _ _) <|
    .bind (sFolderSizes_parses folders hwf) ?_
  cases withCrcs with
  | false =>
    exact .bind (sByte_parses 0 _) <| .bind_nil (.if_neg (by decide) (.pure _)) <| .if_neg (fun h => h rfl) (.pure _)
  | true =>
    rw [if_pos rfl, if_pos rfl, crcBytes_filterMap]
    exact .bind (sByte_parses 0x0A _) <| .bind_nil (v := (folders.map toSFolderCrc, 0)) (.if_pos rfl <|
      .bind (sBoolList_parses _ (List.length_map _) _) <| .bind (sOptFixed_parses (hc rfl) _) <| .bind_nil (sByte_parses 0 _) <|
      .of_val (.pure _) (by simp only [List.zip_map', List.map_map]; congr 2)) <| .if_neg (fun h => h rfl) (.pure _)

theorem sUnpackInfo_parses (folders : List Folder) (hn : folders.length < 2 ^ 64) (hwf : ∀ f ∈ folders, WFFolder f) :
    Parses sUnpackInfo ((writeUnpackInfo folders).drop 1) (folders.map toSFolder) :=
  (sUnpackInfo_parses_gen folders hn hwf false fun h => by cases h).of_eq (by rw [writeUnpackInfo_eq]; rfl)

namespace ChainFolder
variable {f : Folder} (cf : ChainFolder f)
include cf

/-- the folder's unpack size as the format defines it (the output no bind pair consumes) is
    the LAST per-coder size -/
theorem folderOut_eq : folderOut (toSFolder f) = .ok (f.unpacksizes.getD (f.coders.length - 1) 0) := by
  have hk := cf.ncoders
  unfold folderOut
  have hf : (List.range (toSFolder f).unpackSizes.length).find?
      (fun o => !((toSFolder f).bindpairs.any (fun p => p.2 = o))) = some (f.coders.length - 1) := by
    show (List.range f.unpacksizes.length).find? (fun o => !(f.bindpairs.any (fun p => p.2 = o))) = _
    rw [cf.nsizes, cf.pairs]
    apply find_range_first _ _ _ (by omega)
    · intro i hi
      rw [linearPairs_out]; simp; omega
    · rw [linearPairs_out]; simp; omega
  rw [hf]
  rfl

end ChainFolder

end SevenZ
