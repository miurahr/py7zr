/-
The 32-byte signature header `SignatureHeader.write` produces, read back: the one place where the byte ranges that
the readers (`Spec.readArchive`, `Spec.readArchiveTail`, `Impl.locateHeader`, `Impl.startHeaderOk`, `Impl.headerGate`)
cut out of an image are computed.
-/
import SevenZ.Model.WriteSession
import SevenZ.Lemmas.Number
namespace SevenZ
open Impl

/-- the 20 bytes the final signature header carries -/
def sigFields (ofs size crc : Nat) : Bytes := leBytes ofs 8 ++ leBytes size 8 ++ leBytes crc 4

theorem sigFields_length (o s c : Nat) : (sigFields o s c).length = 20 := by simp [sigFields, leBytes_length]

theorem sig_length (ofs size crc : Nat) : (sigHeaderBytes ofs size crc).length = 32 := by
  simp [sigHeaderBytes, magic7z, leBytes_length]

theorem take_drop_mid {α} (A B C : List α) {i n : Nat} (hA : A.length = i) (hB : B.length = n) :
    ((A ++ (B ++ C)).drop i).take n = B := by
  rw [List.drop_left' hA, List.take_left' hB]

/-- the three fields inside the 20 field bytes, as the strict readers cut them out -/
theorem sigFields_read (o s c : Nat) :
    (sigFields o s c).take 8 = leBytes o 8 ∧ ((sigFields o s c).drop 8).take 8 = leBytes s 8 ∧
    ((sigFields o s c).drop 16).take 4 = leBytes c 4 := by
  unfold sigFields
  refine ⟨?_, ?_, ?_⟩
  · rw [List.append_assoc]; exact List.take_left' (leBytes_length _ _)
  · rw [List.append_assoc]; exact take_drop_mid _ _ _ (leBytes_length _ _) (leBytes_length _ _)
  · rw [List.drop_left' (by simp [leBytes_length])]; exact List.take_of_length_le (by simp [leBytes_length])

/-- **A start header read back.**  Every reader in the development (`readArchive`, `readArchiveTail`, `locateHeader`,
    `startHeaderOk`, `headerGate`) cuts the same byte ranges out of the image; on an image that starts with magic,
    version, a 4-byte CRC field `C` and 20 field bytes `F` they hold exactly these. -/
theorem start_read (C F rest : Bytes) (hC : C.length = 4) (hF : F.length = 20) :
    let img := magic7z ++ [0, 4] ++ C ++ F ++ rest
    img.length = 32 + rest.length ∧ img.take 6 = magic7z ∧ (img.drop 8).take 4 = C ∧ (img.drop 12).take 20 = F ∧
    img.drop 32 = rest := by
  intro img
  have l8 : (magic7z ++ [0, 4]).length = 8 := rfl
  have l12 : (magic7z ++ [0, 4] ++ C).length = 12 := by rw [List.length_append, l8, hC]
  have l32 : (magic7z ++ [0, 4] ++ C ++ F).length = 32 := by rw [List.length_append, l12, hF]
  have e : img = magic7z ++ ([0, 4] ++ (C ++ (F ++ rest))) := by simp only [img, List.append_assoc]
  refine ⟨by rw [List.length_append, l32], by rw [e]; exact List.take_left' rfl, ?_, ?_, List.drop_left' l32⟩
  · rw [e, ← List.append_assoc]; exact take_drop_mid _ _ _ l8 hC
  · rw [e, ← List.append_assoc, ← List.append_assoc]; exact take_drop_mid _ _ _ l12 hF

/-- the same for the signature header `SignatureHeader.write` produces, with the three fields as `locateHeader` and
    `headerGate` cut them out of the image -/
theorem sig_read (o s c : Nat) (rest : Bytes) :
    let img := sigHeaderBytes o s c ++ rest
    img.length = 32 + rest.length ∧ img.take 6 = magic7z ∧
    (img.drop 8).take 4 = leBytes (crc32 (sigFields o s c)) 4 ∧ (img.drop 12).take 20 = sigFields o s c ∧
    (img.drop 12).take 8 = leBytes o 8 ∧ (img.drop 20).take 8 = leBytes s 8 ∧ (img.drop 28).take 4 = leBytes c 4 ∧
    img.drop 32 = rest := by
  intro img
  obtain ⟨hlen, h0, h1, h2, h3⟩ := start_read _ (sigFields o s c) rest (leBytes_length (crc32 (sigFields o s c)) 4)
    (sigFields_length o s c)
  obtain ⟨f1, f2, f3⟩ := sigFields_read o s c
  have e : img = magic7z ++ [0, 4] ++ leBytes (crc32 (sigFields o s c)) 4 ++ sigFields o s c ++ rest := by
    simp [img, sigHeaderBytes, sigFields, List.append_assoc]
  rw [← e] at hlen h0 h1 h2 h3
  refine ⟨hlen, h0, h1, h2, ?_, ?_, ?_, h3⟩
  · rw [← f1, ← h2, List.take_take]; rfl
  · rw [← f2, ← h2, List.drop_take, List.take_take, List.drop_drop]; rfl
  · rw [← f3, ← h2, List.drop_take, List.take_take, List.drop_drop]; rfl

end SevenZ
