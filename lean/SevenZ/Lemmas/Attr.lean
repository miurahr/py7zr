/- The attribute word is two 16-bit fields, Windows attributes below and `st_mode` above, and `st_mode` again a type
   nibble over twelve permission bits; decoding reads each field by itself. -/
import SevenZ.Model.Attr
namespace SevenZ
open Impl

/-! ### a word made of two fields: `lo` in the low `n` bits, `hi` above them -/

theorem field_and_low {lo hi n m : Nat} (hm : m < 2 ^ n) : (lo ||| hi <<< n) &&& m = lo &&& m := by
  apply Nat.eq_of_testBit_eq; intro i
  simp only [Nat.testBit_and, Nat.testBit_or, Nat.testBit_shiftLeft]
  by_cases h : i < n
  · simp [Nat.not_le.mpr h]
  · rw [Nat.testBit_lt_two_pow (Nat.lt_of_lt_of_le hm (Nat.pow_le_pow_right (by decide) (Nat.not_lt.mp h)))]; simp

theorem field_shiftRight {lo hi n : Nat} (hl : lo < 2 ^ n) : (lo ||| hi <<< n) >>> n = hi := by
  rw [Nat.shiftRight_or_distrib, Nat.shiftLeft_shiftRight, Nat.shiftRight_eq_div_pow, Nat.div_eq_of_lt hl, Nat.zero_or]

theorem field_and_high {lo hi n m : Nat} (hl : lo < 2 ^ n) : (lo ||| hi <<< n) &&& (m <<< n) = (hi &&& m) <<< n := by
  apply Nat.eq_of_testBit_eq; intro i
  simp only [Nat.testBit_and, Nat.testBit_or, Nat.testBit_shiftLeft]
  by_cases h : n ≤ i
  · rw [Nat.testBit_lt_two_pow (Nat.lt_of_lt_of_le hl (Nat.pow_le_pow_right (by decide) h))]; simp [h]
  · simp [h]

theorem field_lt {lo hi n k : Nat} (hl : lo < 2 ^ n) (hh : hi < 2 ^ k) : lo ||| hi <<< n < 2 ^ (n + k) :=
  Nat.or_lt_two_pow (Nat.lt_of_lt_of_le hl (Nat.pow_le_pow_right (by decide) (Nat.le_add_right n k)))
    (by rw [Nat.shiftLeft_eq, Nat.pow_add, Nat.mul_comm]; exact Nat.mul_lt_mul_of_pos_left hh (Nat.two_pow_pos n))

/-- `st_mode`'s file-type nibble (bits 12..15) -/
def typeBits : Kind → Nat | .file => 0 | .dir => 0o04 | .symlink => 0o12
/-- the Windows-attribute half of the word -/
def winBits : Kind → Nat | .file => 0x8020 | .dir => 0x8010 | .symlink => 0x8420

theorem encodeAttr_fields (k : Kind) (mode : Nat) :
    encodeAttr k mode = winBits k ||| (mode ||| typeBits k <<< 12) <<< 16 := by
  rw [Nat.shiftLeft_or_distrib, Nat.or_comm (mode <<< 16), ← Nat.or_assoc]
  cases k <;> exact congrArg (· ||| mode <<< 16) (by decide)

theorem decode_encodeAttr (k : Kind) (mode : Nat) (h : mode < 4096) :
    decodeAttr (encodeAttr k mode) = (k, some mode) := by
  have hw : winBits k < 2 ^ 16 := by cases k <;> decide
  have hm : mode < 2 ^ 12 := h
  have hext : unixExt (encodeAttr k mode) = some (mode ||| typeBits k <<< 12) := by
    rw [encodeAttr_fields, unixExt, FILE_ATTRIBUTE_UNIX_EXTENSION, field_and_low (by decide), field_shiftRight hw]
    cases k <;> rfl
  have hperm : (mode ||| typeBits k <<< 12) &&& 0o7777 = mode := by
    rw [field_and_low (by decide)]; exact Nat.and_two_pow_sub_one_of_lt_two_pow hm
  have htype : (mode ||| typeBits k <<< 12) &&& 0o170000 = typeBits k <<< 12 := by
    rw [show 0o170000 = 15 <<< 12 from rfl, field_and_high hm]; cases k <;> rfl
  unfold decodeAttr
  simp only [hext, Option.map_some, hperm, htype]
  rw [encodeAttr_fields, FILE_ATTRIBUTE_DIRECTORY, field_and_low (by decide)]
  cases k <;> rfl

theorem encodeAttr_lt (k : Kind) (mode : Nat) (h : mode < 4096) : encodeAttr k mode < 2 ^ 32 := by
  rw [encodeAttr_fields]
  exact field_lt (n := 16) (k := 16) (by cases k <;> decide)
    (field_lt (n := 12) (k := 4) h (by cases k <;> decide))

end SevenZ
