/-
Reader refinement (C06, parse half): on every byte string the strict reader written from the format description
(`Spec.*`) accepts, the model of py7zr's reader (`Impl.read*`) succeeds, consumes the same bytes and returns the same
values -- production by production, for ARBITRARY input (no assumption about who wrote it).  Each production is a
`Refines` statement (Lemmas/Prs) composed from those of its parts; the theorems in the explicit form that C06 quotes
are read off them.
-/
import SevenZ.Spec.Format
import SevenZ.Lemmas.Number
import SevenZ.Lemmas.Utf16
import SevenZ.Lemmas.BoolVec
import SevenZ.Lemmas.ParseBound
namespace SevenZ
open SevenZ.Impl SevenZ.Spec

/-- what an accepted NUMBER looks like: a first byte, and as many more as it has leading one bits -/
theorem sNumber_inv {w : String} {s : Bytes} {v : Nat} {r : Bytes} (h : sNumber w s = .ok (v, r)) :
    ∃ b rest, s = b :: rest ∧ leadingOnes b ≤ rest.length ∧ r = rest.drop (leadingOnes b) ∧
      decodeNumber s = some (v, r) := by
  unfold sNumber at h
  cases hd : decodeNumber s with
  | none => simp [hd] at h
  | some x =>
    simp only [hd] at h
    cases h
    cases s with
    | nil => simp [decodeNumber] at hd
    | cons b rest =>
      refine ⟨b, rest, rfl, ?_⟩
      simp only [decodeNumber] at hd
      split at hd
      · simp at hd
      · cases hd; exact ⟨by omega, rfl, rfl⟩

section prim
variable {lax : Prop} {Q : Bytes → Prop} (hQ : TailClosed Q)
include hQ

theorem sByte_read1 (w : String) : Refines lax Q (fun a b => b = some a) (sByte w) read1 := by
  intro s a r hq h
  unfold sByte at h
  cases s <;> cases h
  exact .ok rfl rfl (hQ.suffix hq (List.suffix_cons _ _))

theorem sByte_readByte (w : String) : Refines lax Q (fun a b => b = a) (sByte w) readByte := by
  intro s a r hq h
  unfold sByte at h
  cases s <;> cases h
  exact .ok rfl rfl (hQ.suffix hq (List.suffix_cons _ _))

theorem sExpect_read1 (id : Nat) (w : String) : Refines lax Q (fun _ b => b = some id) (sExpect id w) read1 := by
  unfold sExpect
  rw [← bind_pure read1]
  refine .bind_eq (sByte_read1 hQ w) fun b => .ite_left (fun h => .pure (h ▸ rfl)) fun _ => .sfail

theorem sNumber_r (w : String) : Refines lax Q (fun a b => b = a) (sNumber w) pNumber := by
  intro s v r hq h
  obtain ⟨b, rest, rfl, hlen, rfl, hd⟩ := sNumber_inv h
  refine .ok (b := v) ?_ rfl (hQ.suffix hq ((List.drop_suffix _ _).trans (List.suffix_cons _ _)))
  unfold pNumber
  rw [number_reads_spec b rest (hQ.bytes hq b (by simp)) hlen, hd]

theorem sFixed_r (k : Nat) (w : String) : Refines lax Q (fun a b => b = a) (sFixed k w) (pFixed k) := by
  intro s v r hq h
  unfold sFixed at h
  unfold pFixed
  split at h
  · simp at h
  · rename_i hl
    cases h
    exact .ok (by simp [hl]) rfl (hQ.suffix hq (List.drop_suffix _ _))

theorem sTake_r (n : Nat) (w : String) :
    Refines lax Q (fun a b => b = a ∧ a.length = n) (sTake n w) (readBytes n) := by
  intro s v r hq h
  unfold sTake at h
  split at h
  · simp at h
  · cases h
    exact .ok rfl ⟨rfl, by simp; omega⟩ (hQ.suffix hq (List.drop_suffix _ _))

end prim

theorem sTake_le {n : Nat} {w : String} {s : Bytes} {x : Bytes × Bytes} (h : sTake n w s = .ok x) : n ≤ s.length := by
  unfold sTake at h
  split at h
  · simp at h
  · omega

theorem sNumber_refines {w : String} {s : Bytes} {v : Nat} {r : Bytes} (hb : IsBytes s)
    (h : sNumber w s = .ok (v, r)) : pNumber s = .ok (v, r) ∧ IsBytes r := by
  obtain ⟨_, g, rfl, hr⟩ := (sNumber_r TailClosed.isBytes w).run hb h
  exact ⟨g, hr⟩

theorem sRepeat_r {lax : Prop} {α β} {Q : Bytes → Prop} {f : α → β} {sp : SP α} {ip : P β}
    (hp : Refines lax Q (fun a b => b = f a) sp ip) :
    ∀ n, Refines lax Q (fun as bs => bs = as.map f ∧ as.length = n) (sRepeat n sp) (repeatP n ip)
  | 0 => .pure ⟨rfl, rfl⟩
  | n + 1 => by
    unfold sRepeat repeatP
    exact .bind_eq hp fun a => .bind_eq' (sRepeat_r hp n) fun as h => .pure ⟨rfl, by simp [h]⟩

theorem sRepeat_id_r {lax : Prop} {α} {Q : Bytes → Prop} {sp : SP α} {ip : P α}
    (hp : Refines lax Q (fun a b => b = a) sp ip) (n : Nat) :
    Refines lax Q (fun as bs => bs = as ∧ as.length = n) (sRepeat n sp) (repeatP n ip) :=
  (sRepeat_r (f := id) hp n).mono fun _ _ h => ⟨by simpa using h.1, h.2⟩

theorem sRepeat_refines {α β} {Q : Bytes → Prop} (sp : SP α) (ip : P β) (f : α → β)
    (hp : ∀ s a r, Q s → sp s = .ok (a, r) → ip s = .ok (f a, r) ∧ Q r) :
    ∀ (n : Nat) (s : Bytes) (as : List α) (r : Bytes), Q s → sRepeat n sp s = .ok (as, r) →
      repeatP n ip s = .ok (as.map f, r) ∧ Q r ∧ as.length = n := by
  intro n s as r hq h
  obtain ⟨_, g, ⟨rfl, hl⟩, hr⟩ := (sRepeat_r (lax := False) (f := f)
    (fun s a r hq h => .ok ((hp s a r hq h).1) rfl ((hp s a r hq h).2)) n).run hq h
  exact ⟨g, hr, hl⟩

/-! what the strict reader's own primitives consume: the steps where py7zr's guard counts bytes need it -/

theorem sByte_post {w : String} : Post (sByte w) (uses 1) := by
  intro s a r h
  unfold sByte at h
  cases s <;> cases h
  simp [uses]

theorem sNumber_post {w : String} : Post (sNumber w) (uses 1) := by
  intro s v r h
  obtain ⟨b, rest, rfl, hlen, rfl, _⟩ := sNumber_inv h
  simp only [uses, List.length_drop, List.length_cons]; omega

theorem sRepeat_post {α} {p : SP α} {k : Nat} (hp : Post p (uses k)) :
    ∀ n, Post (sRepeat n p) (fun s as r => as.length = n ∧ r.length + k * n ≤ s.length) :=
  Post.replicateM (rep := (sRepeat · p)) rfl (fun _ => rfl) hp

theorem readBitsF_spec : ∀ (n f : Nat) (bs : Bytes), n ≤ f → IsBytes bs → (n + 7) / 8 ≤ bs.length →
    readBitsF f n bs = some (((bs.take ((n + 7) / 8)).flatMap bits8).take n, bs.drop ((n + 7) / 8)) :=
  fun n f bs hf _ hl => readBitsF_eq n f bs hf hl

theorem sBitField_run {n : Nat} {w : String} {s : Bytes} {bits : List Bool} {r : Bytes}
    (h : sBitField n w s = .ok (bits, r)) : readBits n s = some (bits, r) ∧ bits.length = n ∧ r <:+ s := by
  unfold sBitField at h
  obtain ⟨bytes, s1, h1, h⟩ := Prs.bind_inv h
  have hl := sTake_le h1
  unfold sTake at h1
  rw [if_neg (by omega)] at h1
  cases h1
  simp only at h
  split at h
  · exact (Prs.sfail_inv h).elim
  · cases Prs.pure_inv h
    have g := readBitsF_eq n n s (Nat.le_refl _) hl
    exact ⟨g, (readBitsF_len _ _ _ _ _ g).1, List.drop_suffix _ _⟩

theorem sBitField_refines {n : Nat} {w : String} {s : Bytes} {bits : List Bool} {r : Bytes} (hb : IsBytes s)
    (h : sBitField n w s = .ok (bits, r)) : readBits n s = some (bits, r) ∧ IsBytes r :=
  ⟨(sBitField_run h).1, TailClosed.isBytes.suffix hb (sBitField_run h).2.2⟩

theorem sBitField_r {lax : Prop} {Q : Bytes → Prop} (hQ : TailClosed Q) (n : Nat) (w : String) :
    Refines lax Q (fun a b => b = a ∧ a.length = n) (sBitField n w) (pBools n false) := by
  intro s bits r hq h
  obtain ⟨g, hl, hs⟩ := sBitField_run h
  exact .ok (by simp [pBools, readBools, g]) ⟨rfl, hl⟩ (hQ.suffix hq hs)

theorem sBoolList_r {lax : Prop} {Q : Bytes → Prop} (hQ : TailClosed Q) (n : Nat) (w : String) :
    Refines lax Q (fun a b => b = a ∧ a.length = n) (sBoolList n w) (pBools n true) := by
  intro s bits r hq h
  unfold sBoolList at h
  obtain ⟨all, s1, h1, k⟩ := Prs.bind_inv h
  unfold sByte at h1
  cases s with
  | nil => cases h1
  | cons b s1 =>
    cases h1
    have hq1 := hQ.suffix hq (List.suffix_cons all s1)
    unfold pBools readBools
    split at k
    · subst all
      obtain ⟨g, hl, hs⟩ := sBitField_run k
      exact .ok (by simp [g]) ⟨rfl, hl⟩ (hQ.suffix hq1 hs)
    · split at k
      · subst all
        cases Prs.pure_inv k
        exact .ok (by simp) ⟨rfl, by simp⟩ hq1
      · exact (Prs.sfail_inv k).elim

theorem sBoolList_refines {n : Nat} {w : String} {s : Bytes} {bits : List Bool} {r : Bytes} (hb : IsBytes s)
    (h : sBoolList n w s = .ok (bits, r)) : pBools n true s = .ok (bits, r) ∧ IsBytes r ∧ bits.length = n := by
  obtain ⟨_, g, ⟨rfl, hl⟩, hr⟩ := (sBoolList_r TailClosed.isBytes n w).run hb h
  exact ⟨g, hr, hl⟩

/-- CRC words: the specification reader keeps an optional value per stream, py7zr's only the defined ones -/
theorem crcs_r {lax : Prop} {Q : Bytes → Prop} (hQ : TailClosed Q) (w : String) : ∀ defined : List Bool,
    Refines lax Q (fun _ _ => True)
      (defined.mapM (fun d => if d then (do let c ← sFixed 4 w; pure (some c)) else (pure none : SP (Option Nat))))
      ((defined.filter id).mapM (fun _ => pFixed 4))
  | [] => .pure trivial
  | true :: ds => by
    simp only [List.mapM_cons, List.filter_cons_of_pos, id, if_true, bind_assoc, pure_bind]
    exact .bind_eq (sFixed_r hQ 4 w) fun _ => .bind (crcs_r hQ w ds) fun _ _ _ => .pure trivial
  | false :: ds => by
    simp only [List.mapM_cons, id, Bool.false_eq_true, not_false_eq_true, List.filter_cons_of_neg, if_false, pure_bind]
    exact (crcs_r hQ w ds).map_left fun _ _ _ => trivial

theorem sPackInfo_r {lax : Prop} {Q : Bytes → Prop} (hQ : TailClosed Q) :
    Refines lax Q (fun sp ip => ip.packpos = sp.packpos ∧ ip.packsizes = sp.sizes ∧ ip.numstreams = sp.sizes.length)
      sPackInfo readPackInfo := by
  unfold sPackInfo readPackInfo
  refine .bind_eq (sNumber_r hQ _) fun packpos => .bind_eq (sNumber_r hQ _) fun n => .bind_eq (sByte_read1 hQ _) fun id => ?_
  rw [ite_bind]
  refine .ite Option.some_inj.symm (fun _ => ?_) fun _ => ?_
  · simp only [bind_assoc, pure_bind]
    refine .bind_eq' (sRepeat_id_r (sNumber_r hQ _) n) fun sizes hl => .bind_eq (sByte_read1 hQ _) fun id2 =>
      .guard_left fun _ => ?_
    rw [ite_bind]
    refine .ite Option.some_inj.symm (fun _ => ?_) fun _ => ?_
    · simp only [bind_assoc, pure_bind]
      exact .bind_eq' (sBoolList_r hQ _ _) fun defined _ => .bind (crcs_r hQ _ _) fun cs ws _ =>
        .bind_eq (sByte_read1 hQ _) fun id3 => .guard (not_congr Option.some_inj.symm) fun _ => .pure ⟨rfl, rfl, hl.symm⟩
    · rw [pure_bind]
      exact .guard (not_congr Option.some_inj.symm) fun _ => .pure ⟨rfl, rfl, hl.symm⟩
  · rw [ite_bind]
    refine .ite_left (fun _ => .sfail_bind) fun _ => ?_
    rw [pure_bind]
    refine .guard_left fun hn => ?_
    rw [if_neg ‹_›, pure_bind]
    exact .guard (not_congr Option.some_inj.symm) fun _ => .pure ⟨rfl, rfl, (Decidable.not_not.mp hn).symm⟩

theorem sPackInfo_refines {s : Bytes} {sp : SPack} {r : Bytes} (hb : IsBytes s) (h : sPackInfo s = .ok (sp, r)) :
    ∃ ip, readPackInfo s = .ok (ip, r) ∧ ip.packpos = sp.packpos ∧ ip.packsizes = sp.sizes ∧
      ip.numstreams = sp.sizes.length ∧ IsBytes r := by
  obtain ⟨ip, g, ⟨a, b, c⟩, hr⟩ := (sPackInfo_r TailClosed.isBytes).run hb h
  exact ⟨ip, g, a, b, c, hr⟩

/-! ### inputs below 2^63 bytes (what `file.read(n)` can be asked for) -/

/-- a header buffer: bytes, fewer than 2^63 of them -/
def Inp (s : Bytes) : Prop := IsBytes s ∧ s.length < 2 ^ 63

theorem TailClosed.inp : TailClosed Inp := TailClosed.isBytes.lt _

/-- `file.read(n)` raises for `n ≥ 2^63`; the strict reader has no such case: it finds `n` bytes -/
theorem Refines.take_guard {lax : Prop} {Q : Bytes → Prop} {α β} {R : α → β → Prop} {n : Nat} {w : String} {f : Bytes → SP α}
    {e : Err} {ip : P β} (h63 : ∀ {s}, Q s → s.length < 2 ^ 63) (h : Refines lax Q R (sTake n w >>= f) ip) :
    Refines lax Q R (sTake n w >>= f) (if n ≥ 2 ^ 63 then Impl.fail e else ip) := by
  intro s a r hq hs
  obtain ⟨_, _, h₁, _⟩ := Prs.bind_inv hs
  rw [if_neg (by have := sTake_le h₁; have := h63 hq; omega)]
  exact h hq hs

/-- py7zr keeps a one-byte id `00` for a coder written without an id -/
def coderOf (c : SCoder) : Coder :=
  { method := if c.method.length > 0 then c.method else [0], numIn := c.numIn, numOut := c.numOut, props := c.props }

theorem sCoder_r {lax : Prop} {Q : Bytes → Prop} (hQ : TailClosed Q) (h63 : ∀ {s}, Q s → s.length < 2 ^ 63) :
    Refines lax Q (fun c b => b = coderOf c) sCoder readCoder := by
  unfold sCoder readCoder
  refine .bind_eq (sByte_readByte hQ _) fun flag => .guard_left fun hf => ?_
  obtain ⟨fb1, fb2, fb3⟩ := flag_bits flag
  simp only [fb1, fb2, fb3]
  refine .bind_eq' (sTake_r hQ _ _) fun method hm => ?_
  refine .bind_eq (φ := fun x => x) (.ite Iff.rfl (fun _ => ?_) fun _ => .pure rfl) fun io => ?_
  · exact .bind_eq (sNumber_r hQ _) fun a => .bind_eq (sNumber_r hQ _) fun b => .pure rfl
  refine .bind_eq (φ := fun x => x) (.ite Iff.rfl (fun _ => ?_) fun _ => .pure rfl) fun props => ?_
  · exact .bind_eq (sNumber_r hQ _) fun n => .take_guard h63 <| .bind_eq' (sTake_r hQ _ _) fun p _ => .pure rfl
  exact .pure (by simp only [coderOf, hm])

theorem sCoder_refines {s : Bytes} {c : SCoder} {r : Bytes} (hi : Inp s) (h : sCoder s = .ok (c, r)) :
    readCoder s = .ok (coderOf c, r) ∧ Inp r := by
  obtain ⟨_, g, rfl, hr⟩ := (sCoder_r TailClosed.inp And.right).run hi h
  exact ⟨g, hr⟩

/-- py7zr's folder record for a folder the specification reader accepted -/
def folderOf (f : SFolder) : Folder :=
  let totIn := (f.coders.map (·.numIn)).sum
  let totOut := (f.coders.map (·.numOut)).sum
  { coders := f.coders.map coderOf, bindpairs := f.bindpairs,
    packedIndices := if totIn - (totOut - 1) = 1 then
        (List.range totIn).filter (fun i => !(f.bindpairs.any (fun b => b.1 = i))) else f.packed,
    unpacksizes := f.unpackSizes, digestdefined := f.crc.isSome, crc := f.crc }

theorem coderOf_numIn (cs : List SCoder) : (cs.map coderOf).map (·.numIn) = cs.map (·.numIn) := by
  simp [coderOf, Function.comp_def]

theorem coderOf_numOut (cs : List SCoder) : (cs.map coderOf).map (·.numOut) = cs.map (·.numOut) := by
  simp [coderOf, Function.comp_def]

/-- py7zr computes the number of packed streams over the integers -/
theorem numPacked_cast {a b : Nat} (hb : ¬b = 0) (hab : ¬a < b - 1) :
    (a : Int) - ((b : Int) - 1) = ((a - (b - 1) : Nat) : Int) := by
  rw [Int.natCast_sub (Nat.le_of_not_lt hab), Int.natCast_sub (Nat.pos_of_ne_zero hb)]; rfl

theorem sFolder_r {lax : Prop} {Q : Bytes → Prop} (hQ : TailClosed Q) (h63 : ∀ {s}, Q s → s.length < 2 ^ 63) :
    Refines lax Q (fun f b => b = folderOf f ∧ f.unpackSizes = [] ∧ f.crc = none) sFolder readFolder := by
  unfold sFolder readFolder
  refine .bind_eq (sNumber_r hQ _) fun n => .guard_left fun _ => .guard_left fun _ =>
    .bind_eq' (sRepeat_r (sCoder_r hQ h63) n) fun coders _ => ?_
  simp only [coderOf_numIn, coderOf_numOut]
  generalize hI : (coders.map (·.numIn)).sum = totIn
  generalize hO : (coders.map (·.numOut)).sum = totOut
  refine .guard_left fun hO0 => .bind_eq' (sRepeat_id_r ?_ _) fun pairs _ => .guard_left fun hIO => ?_
  · exact .bind_eq (sNumber_r hQ _) fun i => .bind_eq (sNumber_r hQ _) fun o => .guard_left fun _ => .pure rfl
  rw [ite_bind, numPacked_cast hO0 hIO, Int.toNat_natCast]
  refine .ite (Int.natCast_inj (n := 1)).symm (fun h1 => ?_) fun h1 => ?_
  · split
    · rw [pure_bind]
      exact .pure ⟨by simp only [folderOf, hI, hO, h1, if_true]; rfl, rfl, rfl⟩
    · exact .sfail_bind
  · exact .bind_eq' (sRepeat_id_r (sNumber_r hQ _) _) fun packed _ =>
      .pure ⟨by simp only [folderOf, hI, hO, h1, if_false]; rfl, rfl, rfl⟩

theorem sFolder_refines {s : Bytes} {f : SFolder} {r : Bytes} (hi : Inp s) (h : sFolder s = .ok (f, r)) :
    readFolder s = .ok (folderOf f, r) ∧ Inp r ∧ f.unpackSizes = [] ∧ f.crc = none := by
  obtain ⟨_, g, ⟨rfl, a, b⟩, hr⟩ := (sFolder_r TailClosed.inp And.right).run hi h
  exact ⟨g, hr, a, b⟩

theorem folderOf_numOut (f : SFolder) : (folderOf f).coders.map (·.numOut) = f.coders.map (·.numOut) := by
  simp [folderOf, coderOf, Function.comp_def]

theorem sFolderSizes_r {lax : Prop} {Q : Bytes → Prop} (hQ : TailClosed Q) : ∀ fs : List SFolder,
    Refines lax Q (fun out b => b = out.map folderOf ∧ out.length = fs.length) (sFolderSizes fs)
      (readUnpackSizes (fs.map folderOf))
  | [] => .pure ⟨rfl, rfl⟩
  | f :: fs => by
    simp only [sFolderSizes, List.map_cons, readUnpackSizes, folderOf_numOut]
    exact .bind_eq' (sRepeat_id_r (sNumber_r hQ _) _) fun sizes _ => .bind_eq' (sFolderSizes_r hQ fs) fun rest hl =>
      .pure ⟨rfl, by simp [hl]⟩

/-- an optional `n`-byte word where a defined-bit says whether it is there; py7zr keeps `G` of what the description keeps -/
theorem optWord_r {lax : Prop} {Q : Bytes → Prop} {β : Type} (hQ : TailClosed Q) (n : Nat) (w : String) (G : Option Nat → β)
    (d : Bool) :
    Refines lax Q (fun a b => b = G a ∧ d = a.isSome)
      (if d then (do let c ← sFixed n w; pure (some c)) else (pure none : SP (Option Nat)))
      (if d then (do let c ← pFixed n; pure (G (some c))) else (pure (G none) : P β)) :=
  .ite Iff.rfl (fun h => .bind_eq (sFixed_r hQ n w) fun _ => .pure ⟨rfl, h⟩) fun h => .pure ⟨rfl, Bool.eq_false_iff.mpr h⟩

theorem zip_crcs_refine : ∀ (fs : List SFolder) (cs : List (Option Nat)),
    ((fs.map folderOf).zip ((cs.map (·.isSome)).zip cs)).map (fun (f, d, c) => { f with digestdefined := d, crc := c }) =
    ((fs.zip cs).map (fun (f, c) => { f with crc := c })).map folderOf
  | [], _ => by simp
  | _ :: _, [] => by simp
  | f :: fs, c :: cs => by
    simp only [List.map_cons, List.zip_cons_cons, zip_crcs_refine fs cs]
    congr 1

theorem sUnpackInfo_r {lax : Prop} {Q : Bytes → Prop} (hQ : TailClosed Q) (h63 : ∀ {s}, Q s → s.length < 2 ^ 63) :
    Refines lax Q (fun fs b => b = fs.map folderOf) sUnpackInfo readUnpackInfo := by
  unfold sUnpackInfo readUnpackInfo
  refine .bind_eq (sExpect_read1 hQ _ _) fun _ => .ite_right (fun h => (h rfl).elim) fun _ =>
    .bind_eq (sNumber_r hQ _) fun n => .bind_eq (sByte_readByte hQ _) fun ext => .guard Iff.rfl fun _ =>
    .bind_eq' (sRepeat_r ((sFolder_r hQ h63).mono fun _ _ h => h.1) n) fun folders _ =>
    .bind_eq (sExpect_read1 hQ _ _) fun _ => .ite_right (fun h => (h rfl).elim) fun _ =>
    .bind_eq' (sFolderSizes_r hQ folders) fun folders2 _ => .bind_eq (sByte_read1 hQ _) fun id =>
    .bind_eq (φ := fun x => (x.1.map folderOf, some x.2)) (.ite Option.some_inj.symm (fun _ => ?_) fun _ => .pure rfl)
      fun (folders3, id3) => .guard_left fun h0 => ?_
  · exact .bind_eq' (sBoolList_r hQ _ _) fun defined _ =>
      .bind_eq' (Refines.mapM (optWord_r hQ 4 _ fun c => c) defined) fun cs hd =>
      .bind_eq (sByte_read1 hQ _) fun id2 => .pure (by rw [hd, List.map_id', zip_crcs_refine])
  · cases Decidable.not_not.mp h0
    exact .pure rfl

theorem sUnpackInfo_refines {s : Bytes} {fs : List SFolder} {r : Bytes} (hi : Inp s) (h : sUnpackInfo s = .ok (fs, r)) :
    readUnpackInfo s = .ok (fs.map folderOf, r) ∧ Inp r := by
  obtain ⟨_, g, rfl, hr⟩ := (sUnpackInfo_r TailClosed.inp And.right).run hi h
  exact ⟨g, hr⟩

/-- at most one output stream of the folder is not bound to an input (the folder has one result) -/
def OneOut (f : SFolder) : Prop :=
  ∀ i j, i < f.unpackSizes.length → j < f.unpackSizes.length →
    (!(f.bindpairs.any (fun p => p.2 = i))) = true → (!(f.bindpairs.any (fun p => p.2 = j))) = true → i = j

theorem find?_reverse_of_unique {α} {p : α → Bool} : ∀ {l : List α}, (∀ a ∈ l, ∀ b ∈ l, p a → p b → a = b) →
    l.reverse.find? p = l.find? p
  | [], _ => rfl
  | a :: l, h => by
    have ih := find?_reverse_of_unique (p := p) fun x hx y hy => h x (List.mem_cons_of_mem _ hx) y (List.mem_cons_of_mem _ hy)
    rw [List.reverse_cons, List.find?_append, ih, List.find?_cons, List.find?_cons]
    cases hpa : p a
    · exact Option.or_none
    · cases hl : l.find? p with
      | none => rfl
      | some b =>
        rw [h b (List.mem_cons_of_mem _ (List.mem_of_find?_eq_some hl)) a (List.mem_cons_self ..) (List.find?_some hl) hpa]
        rfl

/-- the folder's unpack size: py7zr looks for the LAST unbound output, the description for the FIRST; with one
    result they are the same stream -/
theorem folderOut_refines (f : SFolder) (t : Nat) (h1 : OneOut f) (h : folderOut f = .ok t) :
    folderUnpackSize (folderOf f) = some t := by
  unfold folderOut at h
  unfold folderUnpackSize
  dsimp only
  have hbp : (fun i => !findOutBindPair (folderOf f) i) = fun i => !(f.bindpairs.any fun p => p.2 = i) := rfl
  rw [show (folderOf f).unpacksizes = f.unpackSizes from rfl, hbp, find?_reverse_of_unique fun i hi j hj =>
    h1 i j (List.mem_range.mp hi) (List.mem_range.mp hj)]
  cases hf : (List.range f.unpackSizes.length).find? (fun o => !(f.bindpairs.any (fun p => p.2 = o))) <;> rw [hf] at h <;> cases h
  rename_i o
  have ho : o < f.unpackSizes.length := List.mem_range.mp (List.mem_of_find?_eq_some hf)
  show f.unpackSizes[o]? = _
  rw [List.getD_eq_getElem?_getD, List.getElem?_eq_getElem ho]
  rfl

/-- py7zr tests `total − Σ < 0` over Python's integers, the strict reader `Σ > total` -/
theorem int_sub_neg {a b : Nat} : b > a ↔ (a : Int) - (b : Int) < 0 :=
  ⟨fun h => Int.sub_neg_of_lt (Int.ofNat_lt.mpr h), fun h => Int.ofNat_lt.mp (Int.lt_of_sub_neg h)⟩

theorem sSubSizes_r {lax : Prop} {Q : Bytes → Prop} (hQ : TailClosed Q) : ∀ (ns : List Nat) (fs : List SFolder), (∀ f ∈ fs, OneOut f) →
    Refines lax Q (fun a b => b = a) (sSubSizes ns fs) (readSubSizes ns (fs.map folderOf))
  | [], _, _ => by
    simp only [sSubSizes, readSubSizes]
    exact .pure rfl
  | _ :: _, [], _ => by
    simp only [sSubSizes]
    exact .sfail
  | n :: ns, f :: fs, h1 => by
    simp only [sSubSizes, List.map_cons, readSubSizes]
    have ih := sSubSizes_r (lax := lax) hQ ns fs fun g hg => h1 g (List.mem_cons_of_mem _ hg)
    refine .ite Iff.rfl (fun _ => ih) fun _ => .bind_eq' (sRepeat_id_r (sNumber_r hQ _) _) fun explicit _ => ?_
    cases hfo : folderOut f with
    | error e => exact .sfail
    | ok total =>
      rw [folderOut_refines f total (h1 f (by simp)) hfo]
      exact .guard int_sub_neg fun _ => .bind_eq ih fun rest => .pure (by rw [Int.toNat_sub])

theorem sSubSizes_refines : ∀ (ns : List Nat) (fs : List SFolder) (s : Bytes) (out : List Nat) (r : Bytes), Inp s →
    (∀ f ∈ fs, OneOut f) → sSubSizes ns fs s = .ok (out, r) →
    readSubSizes ns (fs.map folderOf) s = .ok (out, r) ∧ Inp r := by
  intro ns fs s out r hi h1 h
  obtain ⟨_, g, rfl, hr⟩ := (sSubSizes_r TailClosed.inp ns fs h1).run hi h
  exact ⟨g, hr⟩

/-! ### SubStreamsInfo as a whole (counts and sizes; the digests are read, their distribution is not compared) -/

theorem sSubSizes_post : ∀ (ns : List Nat) (fs : List SFolder),
    Post (sSubSizes ns fs) (fun s _ r => r.length + (ns.map (fun n => n - 1)).sum ≤ s.length)
  | [], _ => by
    simp only [sSubSizes]
    exact .pure fun s => Nat.le_refl _
  | _ :: _, [] => by
    simp only [sSubSizes]
    exact .sfail
  | n :: ns, f :: fs => by
    simp only [sSubSizes, List.map_cons, List.sum_cons]
    refine .ite (fun h => (sSubSizes_post ns fs).mono fun s _ r hr => by omega) fun _ =>
      .bind (sRepeat_post sNumber_post _) fun explicit => ?_
    split
    · exact .sfail
    · exact .ite (fun _ => .sfail) fun _ => .bind (sSubSizes_post ns fs) fun rest => .pure (by intros; omega)

/-- explicit sizes cost bytes: the size section is at least as long as the number of explicit sizes -/
theorem sSubSizes_consumes : ∀ (ns : List Nat) (fs : List SFolder) (s : Bytes) (out : List Nat) (r : Bytes), Inp s →
    sSubSizes ns fs s = .ok (out, r) → r.length + (ns.map (fun n => n - 1)).sum ≤ s.length :=
  fun ns fs _ _ _ _ h => sSubSizes_post ns fs h

theorem sum_le_of_all_le_one : ∀ (ns : List Nat), (ns.any (· > 1)) = false → ns.sum ≤ ns.length
  | [], _ => by simp
  | n :: ns, h => by
    simp only [List.any_cons, Bool.or_eq_false_iff, decide_eq_false_iff_not] at h
    have := sum_le_of_all_le_one ns h.2
    simp only [List.sum_cons, List.length_cons]; omega

theorem sum_le_pred_sum_add_length : ∀ (ns : List Nat), ns.sum ≤ (ns.map (fun n => n - 1)).sum + ns.length
  | [] => by simp
  | n :: ns => by
    have := sum_le_pred_sum_add_length ns
    simp only [List.sum_cons, List.map_cons, List.length_cons]; omega

/-- where the description's digest distribution succeeds, py7zr's does (lengths are what can go wrong) -/
theorem assignDigests_succeeds : ∀ (ns : List Nat) (fs : List SFolder) (cs : List (Option Nat)) (all : List (Option Nat))
    (defined : List Bool) (crcs : List Nat), defined.length = cs.length → crcs.length = cs.length →
    spreadCrcs ns fs cs = .ok all → ∃ dc, assignDigests ns (fs.map folderOf) defined crcs = some dc := by
  intro ns
  induction ns with
  | nil => exact fun _ _ _ _ _ _ _ _ => ⟨([], []), by rw [assignDigests]⟩
  | cons n ns ih =>
    rintro (_ | ⟨f, fs⟩) cs all defined crcs hd hc h
    · rw [spreadCrcs] at h; cases h
    have hfo : (n = 1 ∧ (folderOf f).digestdefined = true ∧ (folderOf f).crc.isSome = true) ↔ (n = 1 ∧ f.crc.isSome = true) := by
      simp [folderOf]
    rw [spreadCrcs] at h
    rw [List.map_cons, assignDigests]
    simp only [hfo]
    split at h
    · rw [if_pos ‹_›]
      cases hr : spreadCrcs ns fs cs <;> rw [hr] at h <;> cases h
      obtain ⟨dc, hdc⟩ := ih fs cs _ defined crcs hd hc hr
      exact ⟨_, by rw [hdc]⟩
    · rw [if_neg ‹_›]
      split at h
      · cases h
      · cases hr : spreadCrcs ns fs (cs.drop n) <;> rw [hr] at h <;> cases h
        obtain ⟨dc, hdc⟩ := ih fs (cs.drop n) _ (defined.drop n) (crcs.drop n)
          (by rw [List.length_drop, List.length_drop, hd]) (by rw [List.length_drop, List.length_drop, hc]) hr
        exact ⟨_, by rw [if_neg (by omega), hdc]⟩

theorem numDigests_eq (nums : List Nat) (fs : List SFolder) :
    ((nums.zip (fs.map folderOf)).map (fun (n, f) => if n ≠ 1 ∨ !f.digestdefined then n else 0)).sum =
    ((nums.zip fs).map (fun (n, f) => if n = 1 ∧ f.crc.isSome then 0 else n)).sum := by
  induction nums generalizing fs with
  | nil => simp
  | cons n ns ih =>
    cases fs with
    | nil => simp
    | cons f fs =>
      simp only [List.map_cons, List.zip_cons_cons, List.sum_cons, ih fs]
      congr 1
      -- `(folderOf f).digestdefined` is `f.crc.isSome` by definition
      show (if n ≠ 1 ∨ (!f.crc.isSome) = true then n else 0) = _
      cases f.crc.isSome <;> by_cases h1 : n = 1 <;> simp [h1]

/-- py7zr keeps 0 for an undefined CRC where the description (or py7zr's own folder loop) keeps nothing -/
theorem zeroWord_r {lax : Prop} {Q : Bytes → Prop} {ε : Type} {X : Prs ε Nat} (hX : Refines lax Q (fun a b => b = a) X (pFixed 4))
    (d : Bool) :
    Refines lax Q (fun a b => b = a.getD 0 ∧ d = a.isSome)
      (if d then (do let c ← X; pure (some c)) else (pure none : Prs ε (Option Nat))) (if d then pFixed 4 else (pure 0 : P Nat)) :=
  .ite Iff.rfl (fun h => hX.map_left fun _ _ e => ⟨e, h⟩) fun h => .pure ⟨rfl, Bool.eq_false_iff.mpr h⟩

theorem zeroCrcs_of_optCrcs : ∀ (cs : List (Option Nat)) (t1 t2 : Bytes),
    (cs.map (·.isSome)).mapM (fun d => if d then (do let c ← pFixed 4; pure (some c)) else (pure none : P (Option Nat))) t1 = .ok (cs, t2) →
    (cs.map (·.isSome)).mapM (fun d => if d then pFixed 4 else (pure 0 : P Nat)) t1 = .ok (cs.map (·.getD 0), t2) := by
  intro cs t1 t2 h
  obtain ⟨_, g, ⟨rfl, _⟩, _⟩ := (Refines.mapM (zeroWord_r (Q := fun _ => True) fun _ _ _ _ h => .ok h rfl trivial) _).run trivial h
  exact g

theorem sSubStreams_r {lax : Prop} {Q : Bytes → Prop} (hQ : TailClosed Q) {total : Nat} (ht : ∀ {s}, Q s → s.length ≤ total)
    {folders : List SFolder} (h1 : ∀ f ∈ folders, OneOut f) :
    Refines lax Q
      (fun x ss => ss.numUnpack = x.1 ∧ (ss.unpacksizes = some x.2.1 ∨ (ss.unpacksizes = none ∧ x.1.any (· > 1) = false)))
      (sSubStreams folders) (readSubStreams total (folders.map folderOf)) := by
  unfold sSubStreams readSubStreams
  rw [List.length_map]
  refine .bind_eq (sByte_read1 hQ _) fun id => ?_
  -- the counts: py7zr bounds their sum by the header size; what follows in the format costs at least that many bytes
  refine .bind_future (R := fun x y => y = (x.1, some x.2) ∧ x.1.length = folders.length) ?_ ?_
  rotate_left
  · intro s x s₁ a' r hq hX hK
    by_cases hD : id = 0x0D
    · rw [if_pos hD] at hX
      rw [if_pos (congrArg some hD)]
      obtain ⟨_, t₁, a₁, hX⟩ := Prs.bind_inv hX
      obtain ⟨id₂, t₂, a₂, hX⟩ := Prs.bind_inv hX
      cases Prs.pure_inv hX
      obtain ⟨ns, g₁, ⟨rfl, hl⟩, q₁⟩ := (sRepeat_id_r (lax := False) (sNumber_r hQ _) _).run hq a₁
      obtain ⟨_, g₂, rfl, q₂⟩ := (sByte_read1 (lax := False) hQ _).run q₁ a₂
      have c₁ := (repeatP_post pNumber_post _ g₁).2
      have c₂ := sByte_post a₂
      obtain ⟨x₂, s₂, hS, _⟩ := Prs.bind_inv hK
      dsimp only at hS
      have hsum : ns.sum ≤ s₁.length + ns.length := by
        refine (?_ : Post _ (fun s _ _ => ns.sum ≤ s.length + ns.length)) hS
        exact .ite (fun _ => .bind (sSubSizes_post _ _) fun _ => .bind .trivial fun _ => .pure fun s₃ s₂ _ s h =>
            -- explicit sizes: Σ (n − 1) of them were read, each at least a byte
            Nat.le_trans (sum_le_pred_sum_add_length ns) (Nat.add_le_add_right (Nat.le_trans (Nat.le_add_left _ _) h) _))
          fun _ => .ite (fun _ => .sfail) fun hany _ _ _ _ =>
            -- no sizes: no count is above 1, so their sum is at most their number
            Nat.le_trans (sum_le_of_all_le_one ns (Bool.eq_false_iff.mpr hany)) (Nat.le_add_left _ _)
      have hguard : ns.sum ≤ total * 8 := calc
        ns.sum ≤ s₁.length + ns.length := hsum
        _ ≤ t₁.length + ns.length := Nat.add_le_add_right (Nat.le_of_succ_le c₂) _
        _ ≤ s.length := by rw [hl, ← Nat.one_mul folders.length]; exact c₁
        _ ≤ total := ht hq
        _ ≤ total * 8 := Nat.le_mul_of_pos_right _ (by decide)
      rw [Prs.bind_run g₁, if_neg (Nat.not_lt.mpr hguard), Prs.bind_run g₂]
      exact ⟨_, rfl, ⟨rfl, hl⟩, q₂⟩
    · rw [if_neg hD] at hX
      rw [if_neg (mt Option.some_inj.mp hD)]
      cases Prs.pure_inv hX
      exact ⟨_, rfl, ⟨rfl, List.length_replicate⟩, hq⟩
  rintro ⟨nums, id⟩ _ ⟨rfl, hl⟩
  dsimp only at hl ⊢
  rw [numDigests_eq]
  refine .bind (R := fun x y => y.2 = some x.2 ∧ (y.1 = some x.1 ∨ (y.1 = none ∧ nums.any (· > 1) = false))) ?_ ?_
  · refine .ite Option.some_inj.symm (fun _ => ?_) fun _ => .guard_left fun hany => ?_
    · exact .bind_eq (sSubSizes_r hQ nums folders h1) fun sz => .bind_eq (sByte_read1 hQ _) fun id => .pure ⟨rfl, .inl rfl⟩
    · split
      · exact .sfail
      · exact .pure ⟨rfl, .inr ⟨rfl, Bool.eq_false_iff.mpr hany⟩⟩
  rintro ⟨sizes, id⟩ ⟨zo, _⟩ ⟨rfl, hz⟩
  dsimp only at hz ⊢
  -- the digests: py7zr distributes them at once and raises where that fails, the strict reader checks at the end
  refine .bind_future (R := fun x y => y.2.2 = some x.2) ?_ ?_
  rotate_left
  · intro s x s₁ a' r hq hX hK
    by_cases hA : id = 0x0A
    · rw [if_pos hA] at hX
      rw [if_pos (congrArg some hA)]
      obtain ⟨_, t₁, a₁, hX⟩ := Prs.bind_inv hX
      obtain ⟨cs, t₂, a₂, hX⟩ := Prs.bind_inv hX
      obtain ⟨id₂, t₃, a₃, hX⟩ := Prs.bind_inv hX
      cases Prs.pure_inv hX
      obtain ⟨defined, g₁, ⟨rfl, _⟩, q₁⟩ := (sBoolList_r (lax := False) hQ _ _).run hq a₁
      obtain ⟨_, g₂, ⟨rfl, hd⟩, q₂⟩ := (Refines.mapM (lax := False) (zeroWord_r (sFixed_r hQ 4 _)) defined).run q₁ a₂
      obtain ⟨_, g₃, rfl, q₃⟩ := (sByte_read1 (lax := False) hQ _).run q₂ a₃
      obtain ⟨_, hK⟩ := Prs.guard_inv hK
      cases hsp : spreadCrcs nums folders _ with
      | error e => rw [hsp] at hK; exact (Prs.sfail_inv hK).elim
      | ok all =>
        obtain ⟨⟨d, c⟩, hdc⟩ := assignDigests_succeeds nums folders cs all defined (cs.map (·.getD 0)) (by rw [hd, List.length_map])
          (List.length_map _) hsp
        rw [Prs.bind_run g₁, Prs.bind_run g₂, hdc]
        dsimp only
        rw [Prs.bind_run g₃]
        exact ⟨_, rfl, rfl, q₃⟩
    · rw [if_neg hA] at hX
      rw [if_neg (mt Option.some_inj.mp hA)]
      cases Prs.pure_inv hX
      exact ⟨_, rfl, rfl, hq⟩
  rintro ⟨crcs, id⟩ ⟨dd, ds, _⟩ rfl
  dsimp only
  refine .guard (not_congr Option.some_inj.symm) fun _ => ?_
  split
  · exact .sfail
  · exact .ite_right (fun _ => .pure ⟨rfl, hz⟩) fun _ => .pure ⟨rfl, hz⟩

theorem sSubStreams_refines {total : Nat} {folders : List SFolder} {s : Bytes} {nums sizes : List Nat}
    {crcs : List (Option Nat)} {r : Bytes} (hi : Inp s) (hst : s.length ≤ total) (h1 : ∀ f ∈ folders, OneOut f)
    (h : sSubStreams folders s = .ok ((nums, sizes, crcs), r)) :
    ∃ ss, readSubStreams total (folders.map folderOf) s = .ok (ss, r) ∧ ss.numUnpack = nums ∧
      (ss.unpacksizes = some sizes ∨ (ss.unpacksizes = none ∧ nums.any (· > 1) = false)) ∧ Inp r := by
  obtain ⟨ss, g, ⟨a, b⟩, hr⟩ := (sSubStreams_r (TailClosed.inp.le total) And.right h1).run ⟨hi, hst⟩ h
  exact ⟨ss, g, a, b, hr.1⟩

/-- what the two readers' StreamsInfo records have in common -/
def StreamsRel (ss : SStreams) (st : Streams) : Prop :=
  (∀ sp, ss.pack = some sp → ∃ ip, st.packinfo = some ip ∧ ip.packpos = sp.packpos ∧ ip.packsizes = sp.sizes) ∧
  (ss.pack = none → st.packinfo = none) ∧
  st.folders.getD [] = ss.folders.map folderOf ∧
  (∀ x, st.substreams = some x → x.numUnpack = ss.numUnpack ∧
    (x.unpacksizes = some ss.subSizes ∨ (x.unpacksizes = none ∧ ss.numUnpack.any (· > 1) = false))) ∧
  (st.substreams = none → ss.numUnpack = ss.folders.map (fun _ => 1))

/-- StreamsInfo, for every tail-closed `Q` that keeps the input within `total`; in `Accepts` form, stepping through the run,
    because `hone` speaks of the record the strict reader ends with -/
theorem sStreams_acc {lax : Prop} {Q : Bytes → Prop} (hQ : TailClosed Q) (h63 : ∀ {s}, Q s → s.length < 2 ^ 63) {total : Nat}
    (ht : ∀ {s}, Q s → s.length ≤ total) {s : Bytes} {ss : SStreams} {r : Bytes} (hq : Q s)
    (hone : ∀ f ∈ ss.folders, OneOut f) (h : sStreams s = .ok (ss, r)) :
    Accepts lax Q StreamsRel (readStreams total s) ss r := by
  -- the strict reader's run: the id byte and three sections; its closing checks say what the final record holds
  unfold sStreams at h
  obtain ⟨id1, s1, q1, h⟩ := Prs.bind_inv h
  obtain ⟨⟨pack, id2⟩, s2, q2, h⟩ := Prs.bind_inv h
  obtain ⟨⟨folders, hasF, id3⟩, s3, q3, h⟩ := Prs.bind_inv h
  obtain ⟨⟨sub, id4⟩, s4, q4, h⟩ := Prs.bind_inv h
  dsimp only at q3 q4 h
  obtain ⟨hend, h⟩ := Prs.guard_inv h
  obtain ⟨_, h⟩ := Prs.guard_inv h
  have hres : ss.pack = pack ∧ ss.folders = folders ∧ r = s4 ∧
      (∀ n z c, sub = some (n, z, c) → ss.numUnpack = n ∧ ss.subSizes = z) ∧
      (sub = none → ss.numUnpack = ss.folders.map fun _ => 1) := by
    cases sub with
    | some t => cases Prs.pure_inv h; exact ⟨rfl, rfl, rfl, fun n z c e => by cases e; exact ⟨rfl, rfl⟩, nofun⟩
    | none =>
      dsimp only at h
      cases hm : folders.mapM folderOut with
      | error e => rw [hm] at h; exact (Prs.sfail_inv h).elim
      | ok outs => rw [hm] at h; cases Prs.pure_inv h; exact ⟨rfl, rfl, rfl, nofun, fun _ => rfl⟩
  obtain ⟨hpack, hfold, rfl, hsub, hnosub⟩ := hres
  clear h
  unfold readStreams
  refine Refines.step (sByte_read1 hQ _) hq q1 ?_
  rintro _ rfl i1
  refine Refines.step (R := fun x y => y.2 = some x.2 ∧
      (∀ sp, x.1 = some sp → ∃ ip, y.1 = some ip ∧ ip.packpos = sp.packpos ∧ ip.packsizes = sp.sizes) ∧ (x.1 = none → y.1 = none))
    (.ite Option.some_inj.symm (fun _ => .bind (sPackInfo_r hQ) fun sp ip hr => .bind_eq (sByte_read1 hQ _) fun id =>
        .pure ⟨rfl, fun _ e => ⟨ip, rfl, Option.some.inj e ▸ hr.1, Option.some.inj e ▸ hr.2.1⟩, fun e => (Option.some_ne_none _ e).elim⟩)
      fun _ => .pure ⟨rfl, nofun, fun _ => rfl⟩) i1 q2 ?_
  rintro ⟨ipo, _⟩ ⟨rfl, hp, hpn⟩ i2
  refine Refines.step (R := fun x y => y.2 = some x.2.2 ∧ y.1.getD [] = x.1.map folderOf ∧
      (x.2.1 = true → y.1 = some (x.1.map folderOf)))
    (.ite Option.some_inj.symm (fun _ => .bind_eq (sUnpackInfo_r hQ h63) fun fs => .bind_eq (sByte_read1 hQ _) fun id =>
        .pure ⟨rfl, rfl, fun _ => rfl⟩)
      fun _ => .pure ⟨rfl, rfl, fun e => (Bool.false_ne_true e).elim⟩) i2 q3 ?_
  rintro ⟨ifo, _⟩ ⟨rfl, hf, hft⟩ i3
  dsimp only at hf hft ⊢
  refine Refines.step (R := fun x y => y.2 = some x.2 ∧ (y.1 = none → x.1 = none) ∧
      (∀ ix, y.1 = some ix → ∃ n z c, x.1 = some (n, z, c) ∧ ix.numUnpack = n ∧
        (ix.unpacksizes = some z ∨ (ix.unpacksizes = none ∧ n.any (· > 1) = false)))) ?_ i3 q4 ?_
  · refine .ite Option.some_inj.symm (fun _ => .guard_left fun hh => ?_)
      fun _ => .pure ⟨rfl, fun _ => rfl, fun _ e => (Option.some_ne_none _ e.symm).elim⟩
    -- py7zr's 0x08 branch matches on the folders it has; the strict reader's `hasFolders` test makes them `some _`
    rw [hft (by simpa using hh)]
    exact .bind (sSubStreams_r hQ ht (hfold ▸ hone)) fun x ix hx => .bind_eq (sByte_read1 hQ _) fun id =>
      .pure ⟨rfl, fun e => (Option.some_ne_none _ e).elim, fun _ e => ⟨_, _, _, rfl, Option.some.inj e ▸ hx⟩⟩
  rintro ⟨iso, _⟩ ⟨rfl, hsn, hsx⟩ i4
  dsimp only at hp hpn hf hsn hsx ⊢
  rw [if_neg (mt (mt (congrArg some)) hend)]
  refine .ok rfl ⟨hpack ▸ hp, hpack ▸ hpn, hfold ▸ hf, fun x hx => ?_, fun hn => hnosub (hsn hn)⟩ i4
  obtain ⟨n, z, c, e, hn, hz⟩ := hsx x hx
  obtain ⟨en, ez⟩ := hsub n z c e
  rw [en, ez]; exact ⟨hn, hz⟩

theorem sStreams_refines {total : Nat} {s : Bytes} {ss : SStreams} {r : Bytes} (hi : Inp s) (hst : s.length ≤ total)
    (hone : ∀ f ∈ ss.folders, OneOut f) (h : sStreams s = .ok (ss, r)) :
    ∃ st, readStreams total s = .ok (st, r) ∧
      (∀ sp, ss.pack = some sp → ∃ ip, st.packinfo = some ip ∧ ip.packpos = sp.packpos ∧ ip.packsizes = sp.sizes) ∧
      (ss.pack = none → st.packinfo = none) ∧
      st.folders.getD [] = ss.folders.map folderOf ∧
      (∀ x, st.substreams = some x → x.numUnpack = ss.numUnpack ∧
        (x.unpacksizes = some ss.subSizes ∨ (x.unpacksizes = none ∧ ss.numUnpack.any (· > 1) = false))) ∧
      (st.substreams = none → ss.numUnpack = ss.folders.map (fun _ => 1)) ∧ Inp r := by
  obtain ⟨st, g, ⟨a, b, c, d, e⟩, hr⟩ :=
    (sStreams_acc (TailClosed.inp.le total) (fun h => h.1.2) And.right ⟨hi, hst⟩ hone h).strict
  exact ⟨st, g, a, b, c, d, e, hr.1⟩

/-- what py7zr stores for an entry of an optional vector: the value, or "read but undefined" -/
def slotOfOpt : Option Nat → Slot Nat
  | some v => .val v
  | none => .undef

section vectors
variable {lax : Prop} {Q : Bytes → Prop} (hQ : TailClosed Q) (n : Nat) (w : String)
  {set : List FileEntry → List Bool → P (List FileEntry)} {upd : FileEntry → Slot Nat → FileEntry}
  (hnil : set [] [] = pure [])
  (hcons : ∀ f fs d ds, set (f :: fs) (d :: ds) = do
    let v ← (if d then (do let t ← pFixed n; pure (Slot.val t)) else pure Slot.undef : P (Slot Nat))
    let rest ← set fs ds
    pure (upd f v :: rest))
include hQ hnil hcons

/-- the values of an optional vector, entry by entry: `set` is either of py7zr's two loops (`setTimes k`, `setAttrs`) -/
theorem setSlots_r : ∀ (files : List FileEntry) (defined : List Bool), files.length = defined.length →
    Refines lax Q (fun vals out => out = (files.zip vals).map (fun x => upd x.1 (slotOfOpt x.2)) ∧ defined = vals.map (·.isSome))
      (defined.mapM (fun d => if d then (do let v ← sFixed n w; pure (some v)) else (pure none : SP (Option Nat))))
      (set files defined)
  | [], [], _ => hnil ▸ .pure ⟨rfl, rfl⟩
  | [], _ :: _, hl => by cases hl
  | _ :: _, [], hl => by cases hl
  | f :: fs, d :: ds, hl => by
    rw [List.mapM_cons, hcons]
    exact .bind_eq' (optWord_r hQ n w slotOfOpt d) fun v hv =>
      .bind_eq' (setSlots_r fs ds (Nat.succ.inj hl)) fun vs hvs => .pure ⟨rfl, by rw [List.map_cons, ← hv, ← hvs]⟩

theorem sOptVector_r (e : Err) (files : List FileEntry) :
    Refines lax Q (fun vals out => out = (files.zip vals).map (fun x => upd x.1 (slotOfOpt x.2)) ∧ vals.length = files.length)
      (sOptVector files.length n w) (do
        let defined ← pBools files.length true
        let ext ← read1
        if ext ≠ some 0 then Impl.fail e else set files defined) := by
  unfold sOptVector
  exact .bind_eq' (sBoolList_r hQ _ _) fun defined hl => .bind_eq (sByte_read1 hQ _) fun ext =>
    .guard (not_congr Option.some_inj.symm) fun _ =>
    (setSlots_r hQ n w hnil hcons files defined hl.symm).mono fun _ _ h => ⟨h.1, by rw [← hl, h.2, List.length_map]⟩

end vectors

theorem setTimes_refines (k : TimeKind) (w : String) : ∀ (files : List FileEntry) (vals : List (Option Nat)) (s r : Bytes),
    Inp s → files.length = vals.length →
    (vals.map (·.isSome)).mapM (fun d => if d then (do let v ← sFixed 8 w; pure (some v)) else (pure none : SP (Option Nat))) s = .ok (vals, r) →
    setTimes k files (vals.map (·.isSome)) s = .ok ((files.zip vals).map (fun (f, v) => setTime k f (slotOfOpt v)), r) ∧ Inp r := by
  intro files vals s r hi hl h
  obtain ⟨_, g, ⟨rfl, _⟩, hr⟩ :=
    (setSlots_r TailClosed.inp 8 w (set := setTimes k) rfl (fun _ _ _ _ => rfl) files _ (by simpa using hl)).run hi h
  exact ⟨g, hr⟩

theorem setAttrs_refines (w : String) : ∀ (files : List FileEntry) (vals : List (Option Nat)) (s r : Bytes),
    Inp s → files.length = vals.length →
    (vals.map (·.isSome)).mapM (fun d => if d then (do let v ← sFixed 4 w; pure (some v)) else (pure none : SP (Option Nat))) s = .ok (vals, r) →
    setAttrs files (vals.map (·.isSome)) s = .ok ((files.zip vals).map (fun (f, v) => { f with attributes := slotOfOpt v }), r) ∧ Inp r := by
  intro files vals s r hi hl h
  obtain ⟨_, g, ⟨rfl, _⟩, hr⟩ :=
    (setSlots_r TailClosed.inp 4 w (set := setAttrs) rfl (fun _ _ _ _ => rfl) files _ (by simpa using hl)).run hi h
  exact ⟨g, hr⟩

theorem sOptVector_times_r {lax : Prop} {Q : Bytes → Prop} (hQ : TailClosed Q) (k : TimeKind) (w : String) (files : List FileEntry) :
    Refines lax Q (fun vals out => out = (files.zip vals).map (fun (f, v) => setTime k f (slotOfOpt v)) ∧ vals.length = files.length)
      (sOptVector files.length 8 w) (do
        let defined ← pBools files.length true
        let ext ← read1
        if ext ≠ some 0 then Impl.fail .malformed else setTimes k files defined) :=
  sOptVector_r hQ 8 w (set := setTimes k) rfl (fun _ _ _ _ => rfl) .malformed files

theorem sOptVector_attrs_r {lax : Prop} {Q : Bytes → Prop} (hQ : TailClosed Q) (w : String) (files : List FileEntry) :
    Refines lax Q (fun vals out => out = (files.zip vals).map (fun (f, v) => { f with attributes := slotOfOpt v }) ∧
        vals.length = files.length)
      (sOptVector files.length 4 w) (do
        let defined ← pBools files.length true
        let ext ← read1
        if ext = some 0 then setAttrs files defined else Impl.fail .unsupported) := by
  simpa only [ite_not] using sOptVector_r hQ 4 w (set := setAttrs) rfl (fun _ _ _ _ => rfl) .unsupported files

theorem decodeUtf16Units_eq : ∀ (n : Nat) (us : List Nat), us.length ≤ n → decodeUtf16Units us = decodeUnits us :=
  fun _ us _ => decodeUtf16Units_eq_decodeUnits us

theorem splitNames_nil : ∀ (fuel : Nat) (body : Bytes) (acc : List Nat), splitNames fuel body acc = .ok [] →
    body = [] ∧ acc = []
  | _, [], [], _ => ⟨rfl, rfl⟩
  | _, [], _ :: _, h => by simp [splitNames] at h
  | _, [_], acc, h => by cases acc <;> simp [splitNames] at h
  | 0, _ :: _ :: _, acc, h => by simp [splitNames] at h
  | fuel + 1, lo :: hi :: rest, acc, h => by
    rw [splitNames_unit] at h
    split at h
    · cases hd : decodeUtf16Units acc.reverse <;> rw [hd] at h
      · cases h
      · cases hr : splitNames fuel rest [] <;> rw [hr] at h <;> cases h
    · exact absurd (splitNames_nil fuel rest _ h).2 (List.cons_ne_nil _ _)

/-- what a successful `splitNames` says about the bytes in front: nonzero 16-bit units, a zero unit, the rest -/
theorem splitNames_inv : ∀ (fuel : Nat) (body : Bytes) (acc : List Nat) (cs : List Nat) (ns : List (List Nat)), IsBytes body →
    splitNames fuel body acc = .ok (cs :: ns) →
    ∃ us tail fuel', body = unitsToBytes us ++ 0 :: 0 :: tail ∧ (∀ u ∈ us, 0 < u ∧ u < 65536) ∧
      decodeUtf16Units (acc.reverse ++ us) = some cs ∧ splitNames fuel' tail [] = .ok ns ∧ IsBytes tail := by
  intro fuel
  induction fuel with
  | zero =>   -- without fuel only the empty body is split, and into no names
    intro body acc cs ns _ h
    rcases body with _ | ⟨_, _ | _⟩ <;> cases acc <;> simp [splitNames] at h
  | succ fuel ih =>
    intro body acc cs ns hb h
    rcases body with _ | ⟨lo, _ | ⟨hi, rest⟩⟩
    · cases acc <;> simp [splitNames] at h
    · cases acc <;> simp [splitNames] at h
    obtain ⟨hmod, hdiv, hlt, hzero⟩ := unit_of_bytes (hb lo (by simp)) (hb hi (by simp))
    have hbr : IsBytes rest := fun x hx => hb x (by simp [hx])
    rw [splitNames_unit] at h
    split at h
    · obtain ⟨rfl, rfl⟩ := hzero ‹_›
      cases hd : decodeUtf16Units acc.reverse <;> rw [hd] at h
      · cases h
      · cases hr : splitNames fuel rest [] <;> rw [hr] at h <;> cases h
        exact ⟨[], rest, fuel, rfl, nofun, by simpa using hd, hr, hbr⟩
    · obtain ⟨us, tail, fuel', rfl, hus, hdec, hrest, hbt⟩ := ih rest _ cs ns hbr h
      refine ⟨(lo + 256 * hi) :: us, tail, fuel', ?_, List.forall_mem_cons.mpr ⟨⟨Nat.pos_of_ne_zero ‹_›, hlt⟩, hus⟩,
        by simpa using hdec, hrest, hbt⟩
      rw [unitsToBytes, hmod, hdiv]
      rfl

/-- the name loop against `splitNames`, under either bound that keeps every name below `read_utf16`'s limit of 65535
    units: on the body as a whole, or on each name (twice the number of characters bounds the number of units) -/
theorem setNames_run : ∀ (files : List FileEntry) (names : List (List Nat)) (fuel : Nat) (body : Bytes), IsBytes body →
    files.length = names.length → (body.length < 2 * maxLength ∨ ∀ cs ∈ names, 2 * cs.length < maxLength) →
    splitNames fuel body [] = .ok names →
    setNames files body = .ok ((files.zip names).map (fun x => { x.1 with filename := some (fixSlash x.2) }), []) := by
  intro files
  induction files with
  | nil =>
    rintro (_ | _) fuel body _ hl _ h
    · cases (splitNames_nil fuel body [] h).1
      rfl
    · cases hl
  | cons f fs ih =>
    rintro (_ | ⟨cs, ns⟩) fuel body hb hl hlen h
    · cases hl
    obtain ⟨us, tail, fuel', hbody, hus, hdec, hrest, hbt⟩ := splitNames_inv fuel body [] cs ns hb h
    rw [List.reverse_nil, List.nil_append, decodeUtf16Units_eq_decodeUnits] at hdec
    have hbl : body.length = 2 * us.length + (tail.length + 1 + 1) := by
      rw [hbody, List.length_append, unitsToBytes_length, List.length_cons, List.length_cons]
    have hul : us.length < maxLength := hlen.elim (fun h => by omega) fun h => by
      have := decodeUnits_length us cs hdec
      have := h cs (List.mem_cons_self ..)
      omega
    have hread : pUtf16Name body = .ok (fixSlash cs, tail) := by
      unfold pUtf16Name readUtf16
      rw [hbody, readUnits_units us maxLength tail hus hul]
      dsimp only
      rw [hdec]
      rfl
    have ih := ih ns fuel' tail hbt (Nat.succ.inj hl)
      (hlen.imp (fun h => by omega) fun h c hc => h c (List.mem_cons_of_mem _ hc)) hrest
    unfold setNames
    rw [Prs.bind_run hread, Prs.bind_run ih]
    rfl

theorem setNames_refines : ∀ (files : List FileEntry) (names : List (List Nat)) (fuel : Nat) (body : Bytes), IsBytes body →
    files.length = names.length → (∀ cs ∈ names, 2 * cs.length < maxLength) →
    splitNames fuel body [] = .ok names →
    setNames files body = .ok ((files.zip names).map (fun (f, cs) => { f with filename := some (fixSlash cs) }), []) :=
  fun files names fuel body hb hl hlen h => setNames_run files names fuel body hb hl (.inr hlen) h

end SevenZ
