/-
The archive of a create session, read back by py7zr's own reader: the limits of that reader on a
session (`ReadableSession`) and what `Header._read` returns on the session's raw header.
-/
import SevenZ.Lemmas.Session
import SevenZ.Lemmas.ImplHeader
import SevenZ.Lemmas.Assign
namespace SevenZ
open Impl

/-- additional limits of py7zr's *reader*: coder ids non-empty, properties and the name table
    below 2^63 bytes, names of at most 65535 UTF-16 units -/
structure ReadableSession {σ} (cfg : WConfig σ) (ms : List WMember) : Prop where
  ids : ∀ c ∈ cfg.coders, c.method ≠ []
  props : ∀ c ∈ cfg.coders, ∀ p, c.props = some p → p.length < 2 ^ 63
  nameLen : ∀ m ∈ ms, (m.name.flatMap unitsOf).length < maxLength
  namesSize63 : ((ms.map (·.name)).map (fun n => 2 * (n.flatMap unitsOf).length + 2)).sum + 1 < 2 ^ 63

/-- what py7zr's reader reconstructs of the member records of a session -/
def sessionReadBackFiles (ms : List WMember) : List FileEntry :=
  ms.map (fun m => { emptystream := m.emptystream, filename := some (fixSlash m.name), mtime := normSlot m.mtime,
                     attributes := normSlot m.attr })

theorem SessionPart.linear {σ} {cfg : WConfig σ} {ms : List WMember} {us : List Nat} (sp : SessionPart cfg ms us)
    (rs : ReadableSession cfg ms) : LinearFolder (sessionFolder cfg us) :=
  ⟨sp.chain.ncoders, sp.chain.simple, sp.chain.coders, rs.ids, rs.props, sp.chain.pairs, sp.chain.nsizes, sp.chain.sizes⟩

theorem sessionFiles_readable {σ} {cfg : WConfig σ} (ms : List WMember) (wfm : WFMembers ms) (rs : ReadableSession cfg ms) :
    ReadableFiles (sessionFiles ms) :=
  ⟨sessionFiles_wf ms wfm, List.forall_mem_map.2 rs.nameLen,
    by simpa [sessionFiles, nameOf, Function.comp_def] using rs.namesSize63⟩

theorem SessionPart.linearStreams {σ} {cfg : WConfig σ} {ms : List WMember} {us : List Nat} (sp : SessionPart cfg ms us)
    (rs : ReadableSession cfg ms) (hout : (sessionCompress cfg ms).1.out.length < 2 ^ 64) :
    LinearStreams (sessionComps cfg ms us).streams (sessionComps cfg ms us).p (sessionComps cfg ms us).fs
      (sessionComps cfg ms us).ss (sessionComps cfg ms us).sizes := by
  have hl : ((sessionCompress cfg ms).2.map (·.1)).length = (sessionCompress cfg ms).2.length := List.length_map _
  exact {
    hp := rfl
    hf := rfl
    hs := rfl
    pack := sp.wfPack hout
    nfolders := by show (1:Nat) < 2 ^ 64; decide
    fne := by simp [sessionComps]
    folders := List.forall_mem_singleton.2 (sp.linear rs)
    nlen := rfl
    nums := List.forall_mem_singleton.2 sp.count
    usizes := rfl
    tiles := ⟨Nat.le_of_eq hl.symm,
      Or.inr (by
        show folderUnpackSize _ = some (List.take _ ((sessionCompress cfg ms).2.map (·.1))).sum
        rw [folderUnpackSize_linear (readBackFolder (sessionFolder cfg us)) cfg.coders.length sp.chain.ncoders.1 rfl
          sp.chain.nsizes, ← hl, List.take_length]
        exact congrArg some sp.last),
      by show List.drop _ ((sessionCompress cfg ms).2.map (·.1)) = []; rw [← hl, List.drop_length]⟩
    sizesBound := sp.sizes
    ddlen := by simp [sessionComps]
    dlen := by simp [sessionComps]
    dbound := sp.digests }

theorem impl_reads_session {σ} (cfg : WConfig σ) (ms : List WMember) (H0 : Header) (hdr : Bytes) (pos : Nat)
    (wfc : WFConfig cfg) (wfm : WFMembers ms) (rs : ReadableSession cfg ms)
    (hout : (sessionCompress cfg ms).1.out.length < 2 ^ 64)
    (hus : ∀ us, unpacksizesOf cfg.methodsMap ((sessionCompress cfg ms).1.chain.map (·.fed)) = some us → ∀ v ∈ us, v < 2 ^ 64)
    (hH : sessionHeader cfg ms = some H0) (hW : writeHeaderRaw true H0 pos = some hdr) :
    ∃ H', readNextHeader hdr = .ok (.raw H') ∧
      H'.filesInfo = some { files := sessionReadBackFiles ms, emptyfiles := [] } ∧
      (∃ st sub, H'.mainStreams = some st ∧ st.substreams = some sub ∧
        sub.numUnpack = [(dataMembers ms).length] ∧
        (sub.digestsdefined.zip sub.digests).map (fun (d, c) => if d then some c else none) =
          (dataMembers ms).map (fun m => some (crc32 m.blocks.flatten))) := by
  obtain ⟨us, hU, rfl⟩ := sessionHeader_some hH
  have sp := sessionPart cfg ms us wfc wfm hU (hus us hU)
  have hread := impl_reads_header _ _ _ _ _ _ _ rfl rfl (sp.linearStreams rs hout) (sessionFiles_readable ms wfm rs) (by
    show [(sessionCompress cfg ms).2.length].sum ≤ (sessionFiles ms).files.length
    simpa [sessionFiles] using sp.countLe) pos hdr hW
  refine ⟨_, hread, ?_, _, _, rfl, rfl, ?_, ?_⟩
  · simp [readBackHeader, sessionComps, sessionFiles, sessionReadBackFiles, readBackFile, nameOf, Function.comp_def]
  · show [(sessionCompress cfg ms).2.length] = _
    rw [sp.res, List.length_map]
  · obtain ⟨hdd, hds⟩ := readBackSub_all_defined (sessionComps cfg ms us).ss (sessionComps cfg ms us).sizes
      (by simp [sessionComps, List.map_const']) (by simp [sessionComps])
    rw [hdd, hds]
    show (((sessionCompress cfg ms).2.map fun _ => true).zip ((sessionCompress cfg ms).2.map (·.2))).map _ = _
    rw [subCrcs_all_defined, sp.res, List.map_map]
    rfl

theorem cursor_on_session (ms : List WMember) :
    Impl.assign (ms.map (·.emptystream)) [(dataMembers ms).length]
      ((dataMembers ms).map (fun m => m.blocks.flatten.length))
      ((dataMembers ms).map (fun m => some (crc32 m.blocks.flatten))) = some ((expectedMembers ms).map (·.stream)) := by
  have h := assign_refines (ms.map memberFile) [(dataMembers ms).length] _ _ _ (spec_assign_session ms)
  simpa [memberFile, Function.comp_def] using h

end SevenZ
