/-
py7zr's own reader on the whole raw header py7zr's writer emits: what `Header._read` reconstructs.
-/
import SevenZ.Lemmas.ImplStreams
import SevenZ.Lemmas.ImplFiles
namespace SevenZ
open Impl

/-- a StreamsInfo record of linear folders as py7zr's writer holds it -/
structure LinearStreams (s : Streams) (p : PackInfo) (fs : List Folder) (ss : SubStreams) (sizes : List Nat) : Prop where
  hp : s.packinfo = some p
  hf : s.folders = some fs
  hs : s.substreams = some ss
  pack : WFPack p
  nfolders : fs.length < 2 ^ 64
  fne : fs ≠ []
  folders : ∀ f ∈ fs, LinearFolder f
  nlen : ss.numUnpack.length = fs.length
  nums : ∀ n ∈ ss.numUnpack, n < 2 ^ 64
  usizes : ss.unpacksizes = some sizes
  tiles : ImplSizesOK ss.numUnpack (fs.map readBackFolder) sizes
  sizesBound : ∀ v ∈ sizes, v < 2 ^ 64
  ddlen : ss.digestsdefined.length = ss.numUnpack.sum
  dlen : ss.digests.length = ss.numUnpack.sum
  dbound : ∀ c ∈ ss.digests, c < 256 ^ 4

def readBackStreams (p : PackInfo) (fs : List Folder) (ss : SubStreams) (sizes : List Nat) : Streams :=
  { packinfo := some (readBackPack p), folders := some (fs.map readBackFolder), substreams := some (readBackSub ss sizes) }

theorem readStreams_parses {s : Streams} {p : PackInfo} {fs : List Folder} {ss : SubStreams} {sizes : List Nat}
    (wf : LinearStreams s p fs ss sizes) {total : Nat} (hcount : ss.numUnpack.sum ≤ total * 8) {bytes : Bytes}
    (hw : writeStreams s = some bytes) :
    Parses (readStreams total) (bytes.drop 1) (readBackStreams p fs ss sizes) := by
  obtain ⟨a, c, ha, hc, rfl⟩ := writeStreams_some wf.hp wf.hf wf.hs hw
  have hne : ss.numUnpack ≠ [] := List.ne_nil_of_length_pos (wf.nlen ▸ List.length_pos_iff.2 wf.fne)
  rw [writePackInfo_head ha, writeSubStreams_head hc hne, writeUnpackInfo_head fs]
  unfold readStreams
  exact .of_eq (.bind (read1_parses 0x06) <|
    .bind (.if_pos rfl <| .thenId (readPackInfo_parses ha wf.pack) (read1_parses 0x07)) <|
    .bind (.if_pos rfl <| .thenId (readUnpackInfo_parses wf.nfolders wf.folders) (read1_parses 0x08)) <|
    .bind_nil (.if_pos rfl <| .thenId (readSubStreams_parses total ss (fs.map readBackFolder) c hcount hc hne
      (by simpa using wf.nlen) (List.forall_mem_map.2 fun _ _ => rfl)
      wf.nums sizes wf.usizes wf.tiles wf.sizesBound wf.ddlen wf.dlen wf.dbound) (read1_parses 0)) <|
    .if_neg (fun h => h rfl) (.pure _)) (by simp only [List.append_assoc]; rfl)

/-- what `Header._read` reconstructs from a written raw header -/
def readBackHeader (p : PackInfo) (fs : List Folder) (ss : SubStreams) (sizes : List Nat) (fi : FilesInfo) : Header :=
  { mainStreams := some (readBackStreams p fs ss sizes),
    filesInfo := some { files := fi.files.map readBackFile, emptyfiles := [] } }

theorem readNextHeader_raw (bs : Bytes) :
    readNextHeader ([0x01] ++ bs) = (readHeaderBody ([0x01] ++ bs).length bs).map (fun r => .raw r.1) := rfl

/-- **py7zr reads back its own raw header**: for every header of linear folders the writer can
    hold and every member list, `Header._read` returns the same positions, sizes, coders, bind
    pairs, counts, digests, names (backslashes rewritten), flags, times and attributes -/
theorem impl_reads_header (h : Header) (s : Streams) (p : PackInfo) (fs : List Folder) (ss : SubStreams)
    (sizes : List Nat) (fi : FilesInfo) (hs : h.mainStreams = some s) (hfi : h.filesInfo = some fi)
    (wf : LinearStreams s p fs ss sizes) (rf : ReadableFiles fi) (hsf : ss.numUnpack.sum ≤ fi.files.length) (pos : Nat) (bytes : Bytes)
    (hw : writeHeaderRaw true h pos = some bytes) :
    readNextHeader bytes = .ok (.raw (readBackHeader p fs ss sizes fi)) := by
  obtain ⟨ms, hm, rfl⟩ := writeHeaderRaw_some hs hfi hw
  obtain ⟨a, c, -, -, hms⟩ := writeStreams_some wf.hp wf.hf wf.hs hm
  have hlen := writeFilesInfo_length_ge fi (pos + 1 + ms.length) rf.wf.named
  rw [readNextHeader_raw]
  generalize htotal : ([0x01] ++ (ms ++ (writeFilesInfo true fi (pos + 1 + ms.length) ++ [0x00]))).length = total
  -- `FilesInfo._read` wants `numfiles ≤ 8 * (size of the header buffer)`; the FilesInfo section alone has two bytes per member
  have htot : fi.files.length ≤ total * 8 := by rw [← htotal]; simp only [List.length_append]; omega
  have hfl := readFilesInfo_parses rf (pos + 1 + ms.length) htot
  generalize pos + 1 + ms.length = q at hfl ⊢
  have hbody : Parses (readHeaderBody total) (ms ++ (writeFilesInfo true fi q ++ [0x00])) (readBackHeader p fs ss sizes fi) := by
    rw [show ms = [0x04] ++ ms.drop 1 by rw [hms]; rfl,
      writeFilesInfo_head fi q]
    unfold readHeaderBody
    exact .of_eq (.bind (read1_parses 0x04) <|
      .bind (.if_pos rfl <| .thenId (readStreams_parses wf (Nat.le_trans hsf htot) hm) (read1_parses 0x05)) <|
      .bind_nil (.if_pos rfl <| .thenId hfl (read1_parses 0)) <| .if_neg (fun h => h rfl) (.pure _))
      (by simp only [List.append_assoc])
  rw [hbody.run_nil]
  rfl

end SevenZ
