/- The read session.  The slices of a folder are a pure function of
   its members (`allSlices`); a decode that fits delivers the selected ones among them (`decodeFolder_eq`),
   and so does `extract` over a freshly opened archive (`extractFolders_fresh`). -/
import SevenZ.Model.Reader
namespace SevenZ
open Impl

/-- every member of a folder with its right slice, the first member starting at `p` -/
def allSlices (i : Nat) : List Member → Nat → List Slice
  | [], _ => []
  | m :: ms, p => ⟨m.id, i, p, m.size⟩ :: allSlices i ms (p + m.size)

/-- the right slices of all members of an archive whose first folder has index `i` -/
def archiveSlices : Nat → List (List Member) → List Slice
  | _, [] => []
  | i, ms :: rest => allSlices i ms 0 ++ archiveSlices (i + 1) rest

theorem folderTotal_cons (m : Member) (ms : List Member) :
    folderTotal (m :: ms) = m.size + folderTotal ms := List.sum_cons

theorem folderTotal_append (a b : List Member) :
    folderTotal (a ++ b) = folderTotal a + folderTotal b := by
  simp only [folderTotal, List.map_append, List.sum_append]

theorem allSlices_append (i : Nat) (a b : List Member) (p : Nat) :
    allSlices i (a ++ b) p = allSlices i a p ++ allSlices i b (p + folderTotal a) := by
  induction a generalizing p with
  | nil => rfl
  | cons m a ih => simp only [List.cons_append, allSlices, ih, folderTotal_cons, Nat.add_assoc]

theorem allSlices_filter_unselected (i : Nat) (sel : Nat → Bool) (ms : List Member)
    (h : ms.any (fun m => sel m.id) = false) (p : Nat) :
    (allSlices i ms p).filter (fun s => sel s.id) = [] := by
  induction ms generalizing p with
  | nil => rfl
  | cons m ms ih =>
    rw [List.any_cons, Bool.or_eq_false_iff] at h
    rw [allSlices, List.filter_cons, if_neg (Bool.eq_false_iff.mp h.1), ih h.2]

/-- a decode that fits never stalls: it delivers the selected slices and advances by the folder's size -/
theorem decodeFolder_eq (i total : Nat) (sel : Nat → Bool) (ms : List Member) (p : Nat)
    (h : p + folderTotal ms ≤ total) :
    decodeFolder i total sel ms p =
      some ((allSlices i ms p).filter (fun s => sel s.id), p + folderTotal ms) := by
  induction ms generalizing p with
  | nil => rfl
  | cons m ms ih =>
    rw [folderTotal_cons, ← Nat.add_assoc] at h ⊢
    rw [decodeFolder, if_neg (Nat.not_lt.mpr (Nat.le_trans (Nat.le_add_right _ _) h)),
      ih (p + m.size) h, allSlices, List.filter_cons]
    cases sel m.id <;> rfl

theorem trim_split (sel : Nat → Bool) (ms : List Member) :
    ∃ suf, ms = trimAfterLastSelected sel ms ++ suf ∧ suf.any (fun m => sel m.id) = false := by
  refine ⟨(ms.reverse.takeWhile (fun m => !sel m.id)).reverse, ?_, ?_⟩
  · rw [trimAfterLastSelected, ← List.reverse_append, List.takeWhile_append_dropWhile,
      List.reverse_reverse]
  · rw [List.any_reverse, List.any_eq_not_all_not, List.all_takeWhile]; rfl

/-- decoding stops after the last selected member, yet every selected slice of the folder is delivered -/
theorem decodeFolder_trim (i total : Nat) (sel : Nat → Bool) (ms : List Member) (p : Nat)
    (h : p + folderTotal ms ≤ total) :
    decodeFolder i total sel (trimAfterLastSelected sel ms) p =
      some ((allSlices i ms p).filter (fun s => sel s.id),
        p + folderTotal (trimAfterLastSelected sel ms)) := by
  obtain ⟨suf, hsplit, hsuf⟩ := trim_split sel ms
  generalize trimAfterLastSelected sel ms = pre at hsplit ⊢
  subst hsplit  -- `ms` is `pre ++ suf` from here on
  rw [folderTotal_append, ← Nat.add_assoc] at h
  rw [allSlices_append, List.filter_append, allSlices_filter_unselected i sel suf hsuf, List.append_nil,
    decodeFolder_eq i total sel pre p (Nat.le_trans (Nat.le_add_right _ _) h)]

/-- `extract` on a freshly opened archive, in closed form: the selected slices are delivered; a folder
    without a selected member is skipped, any other is left decoded up to its last selected member -/
theorem extractFolders_fresh (sel : Nat → Bool) (folders : List (List Member)) (i : Nat) :
    extractFolders sel false i folders (folders.map fun _ => none) =
      some ((archiveSlices i folders).filter (fun s => sel s.id),
        folders.map fun ms => if ms.any (fun m => sel m.id)
          then some (folderTotal (trimAfterLastSelected sel ms)) else none) := by
  induction folders generalizing i with
  | nil => rfl
  | cons ms rest ih =>
    simp only [List.map_cons, extractFolders, List.headD_cons, List.tail_cons, Option.getD_none,
      Bool.not_false, Bool.true_and, Bool.false_eq_true, if_false, ih (i + 1), archiveSlices,
      List.filter_append]
    cases hany : ms.any (fun m => sel m.id) with
    | false => rw [allSlices_filter_unselected i sel ms hany]; rfl
    | true =>
      rw [decodeFolder_trim i _ sel ms 0 (Nat.le_of_eq (Nat.zero_add _)), Nat.zero_add]; rfl

end SevenZ
