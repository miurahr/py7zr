/-
The default header mode: the strict reader on the EncodedHeader record py7zr writes, and the
create session's archive in that mode.
-/
import SevenZ.Lemmas.Session
import SevenZ.Model.EncodedHeader
namespace SevenZ
open Impl Spec

/-- UnpackInfo with the folder CRCs, as `UnpackInfo.write(with_crcs=True)` emits it -/
theorem sUnpackInfo_crc_parses (folders : List Folder) (hn : folders.length < 2 ^ 64)
    (hwf : ∀ f ∈ folders, WFFolder f) (hc : ∀ f ∈ folders, ∀ c, f.crc = some c → c < 256 ^ 4) :
    Parses sUnpackInfo ((writeUnpackInfoCrc folders).drop 1) (folders.map toSFolderCrc) :=
  (sUnpackInfo_parses_gen folders hn hwf true fun _ => hc).of_eq (by simp [writeUnpackInfoCrc])

/-- what the strict reader makes of an EncodedHeader record with one folder -/
def encodedStreams (p : PackInfo) (f : Folder) (u : Nat) : SStreams :=
  { pack := some (expectedPack p), folders := [toSFolderCrc f], numUnpack := [1], subSizes := [u], subCrcs := [f.crc] }

theorem spec_reads_encoded_record (p : PackInfo) (f : Folder) (record : Bytes) (u : Nat)
    (hw : writeEncodedRecord p [f] = some record) (wfp : WFPack p) (hp1 : p.packsizes.length = 1)
    (wff : WFFolder f) (hcrc : ∀ c, f.crc = some c → c < 256 ^ 4) (hpk : (packedOf f).length = 1)
    (hout : folderOut (toSFolder f) = .ok u) :
    readTop record = .ok (.encoded (encodedStreams p f u)) := by
  unfold writeEncodedRecord at hw
  cases ha : writePackInfo p with
  | none => simp [ha] at hw
  | some a =>
    simp only [ha, Option.map_some, Option.some.injEq] at hw
    subst hw
    have hup := sUnpackInfo_crc_parses [f] (by show (1 : Nat) < 2 ^ 64; decide) (fun g hg => by cases List.mem_singleton.1 hg; exact wff)
      (fun g hg c hc => by cases List.mem_singleton.1 hg; exact hcrc c hc)
    have hfo : folderOut (toSFolderCrc f) = .ok u := hout
    have hst : Parses sStreams (a ++ (writeUnpackInfoCrc [f] ++ [0x00])) (encodedStreams p f u) := by
      rw [writePackInfo_head ha, show writeUnpackInfoCrc [f] = [0x07] ++ (writeUnpackInfoCrc [f]).drop 1 by
        simp only [writeUnpackInfoCrc, List.append_assoc]; rfl]
      unfold sStreams
      refine .of_eq (.bind (sByte_parses 0x06 _) <| .bind (.if_pos rfl <| .thenId (sPackInfo_parses ha wfp) (sByte_parses 0x07 _)) <|
        .bind_nil (.if_pos rfl <| .thenId hup (sByte_parses 0x00 _)) <| .bind_nil (.if_neg (by decide) (.pure _)) <|
        -- no SubStreamsInfo: END, the packed streams the folder needs (`hpk`) against those declared (`hp1`), one stream of the folder's size
        .if_neg (fun h => h rfl) <| .if_neg (by simp [toSFolderCrc, toSFolder, expectedPack, hpk, hp1]) ?_)
        (by simp only [List.append_assoc])
      simp only [List.map_cons, List.map_nil, List.mapM_cons, List.mapM_nil, hfo]
      exact .pure _
    rw [List.append_assoc, List.append_assoc, List.singleton_append]
    simp only [readTop, hst.run_nil]

/-- The strict reader opens `signature header ++ data ++ packed header ++ record`: the record names one packed
    stream at the very end of the data area, which decodes to a raw header of the declared length and CRC. -/
theorem openArchive_encoded (decode : SFolder → Bytes → Option Bytes) (D P record raw : Bytes) (s : SStreams) (sp : SPack)
    (f : SFolder) (H : SHeader) (hab : (D ++ P).length < 2 ^ 64) (hrl : record.length < 2 ^ 64)
    (hrec : readTop record = .ok (.encoded s)) (hpack : s.pack = some sp) (hfs : s.folders = [f])
    (hpos : sp.packpos = D.length) (hsz : sp.sizes = [P.length])
    (hdec : decode f P = some raw) (hfo : folderOut f = .ok raw.length) (hcrc : f.crc = some (crc32 raw))
    (hraw : readTop raw = .ok (.raw H)) :
    openArchive decode (sigHeaderBytes (D ++ P).length record.length (crc32 record) ++ (D ++ P) ++ record) = .ok (H, D) := by
  unfold openArchive
  rw [readArchive_assembled _ _ hab hrl, hrec]
  simp only [hpack, hfs, hsz, hpos, List.length_append, ne_eq, not_true_eq_false, if_false, List.drop_left' rfl,
    List.take_length, List.take_left' rfl, hdec, hfo, hcrc, hraw]

/-! ### a create session in the default header mode -/

/-- the header stream's folder: one simple coder (both of py7zr's header filter lists have one) -/
structure WFHConfig {σ} (hcfg : HConfig σ) : Prop where
  one : hcfg.coders.length = 1
  simple : ∀ c ∈ hcfg.coders, c.numIn = 1 ∧ c.numOut = 1
  coders : ∀ c ∈ hcfg.coders, WFCoder c
  ids : ∀ c ∈ hcfg.coders, c.method ≠ []
  props : ∀ c ∈ hcfg.coders, ∀ p, c.props = some p → p.length < 2 ^ 63
  chainNe : hcfg.chain ≠ []
  fresh : headFed hcfg.chain = 0

theorem headerFolder_chain {σ} (hcfg : HConfig σ) (wfh : WFHConfig hcfg) (raw : Bytes) (hr : raw.length < 2 ^ 64) :
    ChainFolder (headerFolder hcfg raw) :=
  ⟨by show 0 < hcfg.coders.length ∧ hcfg.coders.length ≤ 32; rw [wfh.one]; decide, wfh.simple, wfh.coders, rfl,
    by show [raw.length].length = hcfg.coders.length; rw [wfh.one]; rfl,
    by intro v hv; simp only [headerFolder, List.mem_singleton] at hv; rw [hv]; exact hr⟩

theorem headerCompress_accounting {σ} (hcfg : HConfig σ) (wfh : WFHConfig hcfg) (raw : Bytes) :
    (headerCompress hcfg raw).packsize = (headerCompress hcfg raw).out.length ∧
    (headerCompress hcfg raw).digest = crc32 (headerCompress hcfg raw).out := by
  have h := compressor_accounting hcfg.chain wfh.chainNe wfh.fresh [chunksOf hcfg.blocksize (raw.length + 1) raw]
  exact ⟨h.2.2.1, h.2.2.2.1⟩

theorem session_archive_encoded_conforms {σ} (cfg : WConfig σ) (hcfg : HConfig σ) (ms : List WMember) (us : List Nat) (img : Bytes)
    (decode : SFolder → Bytes → Option Bytes)
    (wfc : WFConfig cfg) (wfm : WFMembers ms) (wfh : WFHConfig hcfg)
    (hU : unpacksizesOf cfg.methodsMap ((sessionCompress cfg ms).1.chain.map (·.fed)) = some us)
    (husb : ∀ v ∈ us, v < 2 ^ 64)
    (hbounds : ∀ raw, writeHeaderRaw true (sessionComps cfg ms us).header 0 = some raw →
      raw.length < 2 ^ 64 ∧ ((sessionCompress cfg ms).1.out ++ (headerCompress hcfg raw).out).length < 2 ^ 64)
    (himgb : img.length < 2 ^ 64)
    (hdec : ∀ raw, writeHeaderRaw true (sessionComps cfg ms us).header 0 = some raw →
      decode (toSFolderCrc (headerFolder hcfg raw)) (headerCompress hcfg raw).out = some raw)
    (h : sessionArchiveEncoded cfg hcfg ms = some img) :
    openArchive decode img = .ok ((sessionComps cfg ms us).expected, (sessionCompress cfg ms).1.out) ∧
    members (sessionComps cfg ms us).expected = .ok (expectedMembers ms) := by
  unfold sessionArchiveEncoded at h
  rw [sessionHeader_eq cfg ms us hU] at h
  simp only [bind, Option.bind, encodeHeader] at h
  cases hraw : writeHeaderRaw true (sessionComps cfg ms us).header 0 with
  | none => simp [hraw] at h
  | some raw =>
    -- for `openArchive_encoded`: the record reads strictly (`hrecTop`) and names one packed stream, the packed header behind the
    -- members' data, with its length and CRC (`headerCompress_accounting`); decoded, it is the raw header of the raw mode (`hrawTop`)
    obtain ⟨hr64, hab⟩ := hbounds raw hraw
    have hout : (sessionCompress cfg ms).1.out.length < 2 ^ 64 := by
      simp only [List.length_append] at hab; omega
    have sp := sessionPart cfg ms us wfc wfm hU husb
    obtain ⟨hps, hdg⟩ := headerCompress_accounting hcfg wfh raw
    simp only [hraw] at h
    let p : PackInfo := { packpos := (sessionCompress cfg ms).1.out.length, numstreams := 1,
                          packsizes := [(headerCompress hcfg raw).packsize], digestdefined := [],
                          crcs := [(headerCompress hcfg raw).digest], enableDigests := false }
    cases hrec : writeEncodedRecord p [headerFolder hcfg raw] with
    | none => simp [p, hrec, pure] at h
    | some record =>
      simp only [p, hrec, pure, Option.some.injEq] at h
      subst h
      have hcf := headerFolder_chain hcfg wfh raw hr64
      have hpl : (headerCompress hcfg raw).out.length < 2 ^ 64 := by simp only [List.length_append] at hab; omega
      have wfp : WFPack p :=
        ⟨hout, by show (1:Nat) < 2 ^ 64; decide,
          by intro v hv; simp only [p, List.mem_singleton] at hv; rw [hv, hps]; exact hpl,
          by intro he; simp [p] at he,
          by intro c hc; simp only [p, List.mem_singleton] at hc; rw [hc, hdg]; exact crc32Update_lt 0 _⟩
      have hfo : folderOut (toSFolder (headerFolder hcfg raw)) = .ok raw.length := by
        rw [hcf.folderOut_eq]
        show Except.ok ([raw.length].getD (hcfg.coders.length - 1) 0) = _
        rw [wfh.one]; rfl
      have hrecTop := spec_reads_encoded_record p (headerFolder hcfg raw) record raw.length hrec wfp rfl hcf.wf
        (by intro c hc; simp only [headerFolder, Option.some.injEq] at hc; rw [← hc]; exact crc32Update_lt 0 _)
        (by rw [hcf.packedOf_eq]; rfl) hfo
      have hrawTop := spec_reads_header (sessionComps cfg ms us).header (sessionComps cfg ms us).streams _ _ _ _ _ rfl rfl
        (sp.wfStreams hout) (sessionFiles_wf ms wfm) 0 raw hraw
      have hreclen : record.length < 2 ^ 64 :=  -- the record is part of the file
        Nat.lt_of_le_of_lt (by rw [List.length_append]; exact Nat.le_add_left _ _) himgb
      have himg : sigHeaderBytes ((sessionCompress cfg ms).1.out.length + (headerCompress hcfg raw).out.length) record.length (crc32 record) ++
          (sessionCompress cfg ms).1.out ++ (headerCompress hcfg raw).out ++ record =
          sigHeaderBytes ((sessionCompress cfg ms).1.out ++ (headerCompress hcfg raw).out).length record.length (crc32 record) ++
            ((sessionCompress cfg ms).1.out ++ (headerCompress hcfg raw).out) ++ record := by
        simp [List.length_append]
      rw [himg]
      refine ⟨?_, sessionComps_content cfg ms us wfc⟩
      exact openArchive_encoded decode _ _ record raw _ (expectedPack p) (toSFolderCrc (headerFolder hcfg raw)) _ hab hreclen
        hrecTop rfl rfl rfl (by show [(headerCompress hcfg raw).packsize] = _; rw [hps]) (hdec raw hraw) hfo rfl hrawTop

end SevenZ
