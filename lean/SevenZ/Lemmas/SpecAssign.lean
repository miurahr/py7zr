/-
The format's sub-stream assignment without its fuel.  `Spec.assignGo` counts fuel only to make its recursion
structural.  `Spec.Assigns` is its graph on the successful runs, one constructor per branch that returns: what holds
of a successful assignment is proved by induction over it, and an assignment is shown to succeed by building a
derivation and running it with enough fuel.
-/
import SevenZ.Spec.Format
namespace SevenZ.Spec

inductive Assigns : List SFile → Nat → Nat → Nat → List Nat → List Nat → List (Option Nat) → List SMember → Prop
  | nil {folder taken off nums crcs} : Assigns [] folder taken off nums [] crcs []
  | empty {f fs folder taken off nums sizes crcs r} : f.emptyStream = true →
      Assigns fs folder taken off nums sizes crcs r →
      Assigns (f :: fs) folder taken off nums sizes crcs (⟨f, none⟩ :: r)
  | next {f fs folder taken off n ns sizes crcs r} : f.emptyStream = false → n ≤ taken →
      Assigns (f :: fs) (folder + 1) 0 0 ns sizes crcs r →
      Assigns (f :: fs) folder taken off (n :: ns) sizes crcs r
  | take {f fs folder taken off n ns s ss c cs r} : f.emptyStream = false → taken < n →
      Assigns fs folder (taken + 1) (off + s) (n :: ns) ss cs r →
      Assigns (f :: fs) folder taken off (n :: ns) (s :: ss) (c :: cs) (⟨f, some (folder, off, s, c)⟩ :: r)

theorem except_map_eq_ok {ε α β} {f : α → β} {x : Except ε α} {b : β} (h : x.map f = .ok b) : ∃ a, x = .ok a ∧ f a = b := by
  cases x with
  | error e => cases h
  | ok a => exact ⟨a, rfl, by cases h; rfl⟩

theorem assigns_of_assignGo : ∀ (fuel : Nat) (files : List SFile) (folder taken off : Nat) (nums sizes : List Nat)
    (crcs : List (Option Nat)) (ms : List SMember),
    assignGo fuel files folder taken off nums sizes crcs = .ok ms → Assigns files folder taken off nums sizes crcs ms := by
  intro fuel
  induction fuel with
  | zero => intro _ _ _ _ _ _ _ _ h; cases h
  | succ fuel ih =>
    intro files folder taken off nums sizes crcs ms h
    cases files with
    | nil =>
      unfold assignGo at h
      split at h
      · cases h
      · rename_i hs; cases h; rw [Decidable.not_not.mp hs]; exact .nil
    | cons f fs =>
      unfold assignGo at h
      split at h
      · rename_i he
        obtain ⟨r, hr, rfl⟩ := except_map_eq_ok h
        exact .empty he (ih _ _ _ _ _ _ _ _ hr)
      · rename_i he
        have he : f.emptyStream = false := by simpa using he
        split at h
        · cases h
        · split at h
          · rename_i hge; exact .next he hge (ih _ _ _ _ _ _ _ _ h)
          · rename_i hge
            split at h
            · obtain ⟨r, hr, rfl⟩ := except_map_eq_ok h
              exact .take he (by omega) (ih _ _ _ _ _ _ _ _ hr)
            · cases h

/-! the four branches of `assignGo` that return, one step of fuel each -/

theorem assignGo_nil (fuel folder taken off : Nat) (nums : List Nat) (crcs : List (Option Nat)) :
    assignGo (fuel + 1) [] folder taken off nums [] crcs = .ok [] := rfl

theorem assignGo_empty {f : SFile} (he : f.emptyStream = true) (fuel : Nat) (fs : List SFile) (folder taken off : Nat)
    (nums sizes : List Nat) (crcs : List (Option Nat)) :
    assignGo (fuel + 1) (f :: fs) folder taken off nums sizes crcs =
      (assignGo fuel fs folder taken off nums sizes crcs).map (fun r => ⟨f, none⟩ :: r) := by
  show (if f.emptyStream = true then _ else _) = _
  rw [if_pos he]

theorem assignGo_next {f : SFile} (he : f.emptyStream = false) {n taken : Nat} (hge : n ≤ taken) (fuel : Nat) (fs : List SFile)
    (folder off : Nat) (ns sizes : List Nat) (crcs : List (Option Nat)) :
    assignGo (fuel + 1) (f :: fs) folder taken off (n :: ns) sizes crcs = assignGo fuel (f :: fs) (folder + 1) 0 0 ns sizes crcs := by
  show (if f.emptyStream = true then _ else if taken ≥ n then _ else _) = _
  rw [if_neg (by rw [he]; decide), if_pos hge]

theorem assignGo_take {f : SFile} (he : f.emptyStream = false) {n taken : Nat} (hlt : taken < n) (fuel : Nat) (fs : List SFile)
    (folder off s : Nat) (c : Option Nat) (ns ss : List Nat) (cs : List (Option Nat)) :
    assignGo (fuel + 1) (f :: fs) folder taken off (n :: ns) (s :: ss) (c :: cs) =
      (assignGo fuel fs folder (taken + 1) (off + s) (n :: ns) ss cs).map (fun r => ⟨f, some (folder, off, s, c)⟩ :: r) := by
  show (if f.emptyStream = true then _ else if taken ≥ n then _ else _) = _
  rw [if_neg (by rw [he]; decide), if_neg (Nat.not_le.2 hlt)]

theorem Assigns.assignGo {files folder taken off nums sizes crcs ms} (h : Assigns files folder taken off nums sizes crcs ms) :
    ∀ fuel, files.length + nums.length < fuel → Spec.assignGo fuel files folder taken off nums sizes crcs = .ok ms := by
  induction h with
  | nil =>
    intro fuel hf
    obtain ⟨fuel, rfl⟩ := Nat.exists_eq_succ_of_ne_zero (Nat.ne_zero_of_lt hf)
    exact assignGo_nil ..
  | empty he _ ih =>
    intro fuel hf
    obtain ⟨fuel, rfl⟩ := Nat.exists_eq_succ_of_ne_zero (Nat.ne_zero_of_lt hf)
    rw [assignGo_empty he, ih fuel (by simp only [List.length_cons] at hf ⊢; omega)]; rfl
  | next he hge _ ih =>
    intro fuel hf
    obtain ⟨fuel, rfl⟩ := Nat.exists_eq_succ_of_ne_zero (Nat.ne_zero_of_lt hf)
    rw [assignGo_next he hge]
    exact ih fuel (by simp only [List.length_cons] at hf ⊢; omega)
  | take he hlt _ ih =>
    intro fuel hf
    obtain ⟨fuel, rfl⟩ := Nat.exists_eq_succ_of_ne_zero (Nat.ne_zero_of_lt hf)
    rw [assignGo_take he hlt, ih fuel (by simp only [List.length_cons] at hf ⊢; omega)]; rfl

theorem Assigns.uses_all {files folder taken off nums sizes crcs ms} (h : Assigns files folder taken off nums sizes crcs ms) :
    (ms.filterMap (·.stream)).map (fun x => x.2.2.1) = sizes := by
  induction h with
  | nil => rfl
  | empty _ _ ih => exact ih
  | next _ _ _ ih => exact ih
  | take _ _ _ ih => exact congrArg (_ :: ·) ih

theorem Assigns.files {files folder taken off nums sizes crcs ms} (h : Assigns files folder taken off nums sizes crcs ms) :
    ms.map (·.file) = files := by
  induction h with
  | nil => rfl
  | empty _ _ ih => exact congrArg (_ :: ·) ih
  | next _ _ _ ih => exact ih
  | take _ _ _ ih => exact congrArg (_ :: ·) ih

end SevenZ.Spec

namespace SevenZ
open Spec

/-- what the format assigns when all data sits in folder 0 -/
def singleFolderMembers : List SFile → Nat → List Nat → List (Option Nat) → List SMember
  | [], _, _, _ => []
  | f :: fs, off, sizes, crcs =>
    if f.emptyStream then ⟨f, none⟩ :: singleFolderMembers fs off sizes crcs
    else match sizes, crcs with
      | s :: ss, c :: cs => ⟨f, some (0, off, s, c)⟩ :: singleFolderMembers fs (off + s) ss cs
      | _, _ => []

/-- members of one folder with index `fo`, starting at offset `off` -/
def folderMembers (fo : Nat) : List SFile → Nat → List Nat → List (Option Nat) → List SMember
  | [], _, _, _ => []
  | f :: fs, off, sizes, crcs =>
    if f.emptyStream then ⟨f, none⟩ :: folderMembers fo fs off sizes crcs
    else match sizes, crcs with
      | s :: ss, c :: cs => ⟨f, some (fo, off, s, c)⟩ :: folderMembers fo fs (off + s) ss cs
      | _, _ => []

theorem folderMembers_zero (files : List SFile) (off : Nat) (sizes : List Nat) (crcs : List (Option Nat)) :
    folderMembers 0 files off sizes crcs = singleFolderMembers files off sizes crcs := by
  induction files generalizing off sizes crcs with
  | nil => rfl
  | cons f fs ih =>
    unfold folderMembers singleFolderMembers
    split
    · rw [ih]
    · cases sizes <;> cases crcs <;> simp [ih]

/-- while the current folder has room for all sub-streams on offer, the files stay in it, whatever folders follow -/
theorem Spec.Assigns.folder (fo n : Nat) (ns : List Nat) :
    ∀ (files : List SFile) (taken off : Nat) (sizes : List Nat) (crcs : List (Option Nat)),
    (files.filter (fun f => !f.emptyStream)).length = sizes.length → sizes.length = crcs.length → taken + sizes.length ≤ n →
    Assigns files fo taken off (n :: ns) sizes crcs (folderMembers fo files off sizes crcs) := by
  intro files
  induction files with
  | nil => intro taken off sizes crcs hc _ _; rw [List.eq_nil_of_length_eq_zero hc.symm]; exact .nil
  | cons f fs ih =>
    intro taken off sizes crcs hc hl hn
    unfold folderMembers
    cases he : f.emptyStream with
    | true => exact .empty he (ih _ _ _ _ (by simpa [List.filter_cons, he] using hc) hl hn)
    | false =>
      cases sizes with
      | nil => simp [he] at hc
      | cons s ss =>
        cases crcs with
        | nil => simp at hl
        | cons c cs =>
          simp only [List.length_cons] at hn hl
          exact .take he (by omega) (ih _ _ _ _ (by simpa [List.filter_cons, he] using hc) (by omega) (by omega))

/-! ### under an append: the base keeps its assignment, the members of one more folder follow -/

/-- a file with a stream at the head steps over a used-up folder and the stream-less ones behind it -/
theorem Spec.Assigns.skip {f : SFile} {fs : List SFile} {rest sizes : List Nat} {crcs : List (Option Nat)} {r : List SMember}
    (he : f.emptyStream = false) : ∀ (ns : List Nat) (n fo k taken off : Nat), n ≤ taken → ns.sum = 0 → k = fo + 1 + ns.length →
    Assigns (f :: fs) k 0 0 rest sizes crcs r → Assigns (f :: fs) fo taken off (n :: ns ++ rest) sizes crcs r := by
  intro ns
  induction ns with
  | nil => intro n fo k taken off hn _ hk h; subst hk; exact .next he hn h
  | cons n' ns ih =>
    intro n fo k taken off hn hz hk h
    simp only [List.sum_cons] at hz
    exact .next he hn (ih n' (fo + 1) k 0 0 (by omega) (by omega) (by simp at hk; omega) h)

/-- the base is used up -- the current folder has given out all its streams and the later ones have none:
    the files that follow are assigned in the appended folder -/
theorem Spec.Assigns.after_base (n n2 : Nat) (ns : List Nat) (hz : ns.sum = 0) (fo k : Nat) (hk : k = fo + 1 + ns.length) :
    ∀ (files : List SFile) (taken off : Nat) (sizes : List Nat) (crcs : List (Option Nat)), n ≤ taken →
    (files.filter (fun f => !f.emptyStream)).length = sizes.length → sizes.length = crcs.length → sizes.length ≤ n2 →
    Assigns files fo taken off (n :: ns ++ [n2]) sizes crcs (folderMembers k files 0 sizes crcs) := by
  intro files
  induction files with
  | nil => intro taken off sizes crcs _ hc _ _; rw [List.eq_nil_of_length_eq_zero hc.symm]; exact .nil
  | cons f fs ih =>
    intro taken off sizes crcs ht hc hl hn
    cases he : f.emptyStream with
    | true =>
      have := ih taken off sizes crcs ht (by simpa [List.filter_cons, he] using hc) hl hn
      unfold folderMembers; rw [he]; exact .empty he this
    | false => exact .skip he ns n fo k taken off ht hz hk (.folder k n2 [] (f :: fs) 0 0 sizes crcs hc hl (by omega))

/-- what is left to give out from the current folder on -/
def capacity (taken : Nat) : List Nat → Nat
  | [] => 0
  | n :: ns => (n - taken) + ns.sum

theorem capacity_eq_zero {taken n : Nat} {ns : List Nat} (h : capacity taken (n :: ns) = 0) : n ≤ taken ∧ ns.sum = 0 := by
  simp only [capacity] at h; omega

theorem capacity_next {taken n n' : Nat} (ns : List Nat) (hge : n ≤ taken) :
    capacity 0 (n' :: ns) = capacity taken (n :: n' :: ns) := by
  simp only [capacity, List.sum_cons]; omega

theorem capacity_take {taken n : Nat} (ns : List Nat) (hlt : taken < n) :
    capacity taken (n :: ns) = capacity (taken + 1) (n :: ns) + 1 := by
  simp only [capacity]; omega

/-- **The format's assignment under an append.**  If the base header assigns `M1` to its files,
    and all its sub-streams are given out, then with one more folder of `n2` streams and the
    files `files2` appended, the assignment is `M1` followed by the members of the new folder. -/
theorem Spec.Assigns.append {files2 : List SFile} {n2 : Nat} {sizes2 : List Nat} {crcs2 : List (Option Nat)}
    (hc2 : (files2.filter (fun f => !f.emptyStream)).length = sizes2.length) (hl2 : sizes2.length = crcs2.length)
    (hn2 : sizes2.length ≤ n2)
    {files1 fo taken off nums sizes1 crcs1 M1} (h : Assigns files1 fo taken off nums sizes1 crcs1 M1) :
    ∀ k, k = fo + nums.length → nums ≠ [] → capacity taken nums = sizes1.length → sizes1.length = crcs1.length →
    Assigns (files1 ++ files2) fo taken off (nums ++ [n2]) (sizes1 ++ sizes2) (crcs1 ++ crcs2)
      (M1 ++ folderMembers k files2 0 sizes2 crcs2) := by
  induction h with
  | @nil fo taken off nums crcs1 =>
    -- the base is finished: its sizes are used up, hence every folder is exhausted
    intro k hk hne hcap hl1
    rw [List.eq_nil_of_length_eq_zero hl1.symm]
    cases nums with
    | nil => exact absurd rfl hne
    | cons n ns =>
      obtain ⟨hn, hz⟩ := capacity_eq_zero hcap
      exact .after_base n n2 ns hz fo k (by rw [hk, List.length_cons]; omega) files2 taken off sizes2 crcs2 hn hc2 hl2 hn2
  | empty he _ ih => intro k hk hne hcap hl1; exact .empty he (ih k hk hne hcap hl1)
  | @next f fs fo taken off n ns sizes1 crcs1 r he hge h' ih =>
    intro k hk _ hcap hl1
    cases ns with
    | nil => cases h' with | empty he' _ => rw [he] at he'; cases he'   -- past the last base folder no sub-stream is left for this file
    | cons n' ns' =>
      exact .next he hge (ih k (by rw [hk, List.length_cons, List.length_cons]; omega) (List.cons_ne_nil _ _)
        ((capacity_next ns' hge).trans hcap) hl1)
  | take he hlt _ ih =>
    intro k hk _ hcap hl1
    rw [capacity_take _ hlt, List.length_cons] at hcap
    exact .take he hlt (ih k hk (List.cons_ne_nil _ _) (Nat.succ.inj hcap) (Nat.succ.inj hl1))

theorem assign_append (files1 files2 : List SFile) (nums : List Nat) (n2 : Nat) (sizes1 sizes2 : List Nat)
    (crcs1 crcs2 : List (Option Nat)) (M1 : List SMember)
    (hbase : assign files1 nums sizes1 crcs1 = .ok M1) (hne : nums ≠ [])
    (hcap : nums.sum = sizes1.length) (hl1 : sizes1.length = crcs1.length)
    (hl2 : sizes2.length = crcs2.length) (hc2 : (files2.filter (fun f => !f.emptyStream)).length = sizes2.length)
    (hn2 : sizes2.length = n2) :
    assign (files1 ++ files2) (nums ++ [n2]) (sizes1 ++ sizes2) (crcs1 ++ crcs2) =
      .ok (M1 ++ folderMembers nums.length files2 0 sizes2 crcs2) := by
  have hcap' : capacity 0 nums = sizes1.length := by
    cases nums with
    | nil => exact absurd rfl hne
    | cons n ns => simpa [capacity] using hcap
  exact ((assigns_of_assignGo _ _ _ _ _ _ _ _ _ hbase).append hc2 hl2 (by omega) _ (by simp) hne hcap' hl1).assignGo _ (by omega)

end SevenZ
