/-
Refinement of the format's sub-stream assignment (`Spec.assign`) by the implementation's
cursor (`Impl.assign`), for every layout.
-/
import SevenZ.Model.Assign
import SevenZ.Lemmas.SpecAssign
namespace SevenZ
open SevenZ.Impl

theorem skipZero_zeros (nums : List Nat) (fi folder n : Nat) (fuel : Nat)
    (hz : ∀ j, fi ≤ j → j < folder → nums[j]? = some 0) (hn : nums[folder]? = some n) (hpos : 0 < n)
    (hle : fi ≤ folder) (hfuel : folder - fi < fuel) : skipZero nums fuel fi = some folder := by
  induction fuel generalizing fi with
  | zero => omega
  | succ fuel ih =>
    unfold skipZero
    by_cases heq : fi = folder
    · subst heq
      rw [hn]
      cases n with
      | zero => omega
      | succ k => rfl
    · have hlt : fi < folder := by omega
      rw [hz fi (Nat.le_refl _) hlt]
      exact ih (fi + 1) (fun j h1 h2 => hz j (by omega) h2) (by omega) (by omega)

theorem assignGo_true (nums sizes : List Nat) (crcs : List (Option Nat)) (fs : List Bool) (folder input outs off : Nat) :
    assignGo nums sizes crcs (true :: fs) folder input outs off =
      (assignGo nums sizes crcs fs folder input outs off).map (fun r => none :: r) := rfl

/-- a file with a stream: `skipZero` finds its folder `fo`, the next size and digest are taken, and the cursor moves
    on inside `fo` or, after the folder's last stream, behind it -/
theorem assignGo_false {nums sizes : List Nat} {crcs : List (Option Nat)} (fs : List Bool) {folder fo outs s : Nat}
    {c : Option Nat} (input off : Nat) (hsk : skipZero nums (nums.length + 1) folder = some fo)
    (hs : sizes[outs]? = some s) (hc : crcs[outs]? = some c) :
    assignGo nums sizes crcs (false :: fs) folder input outs off =
      if input + 1 ≥ nums.getD fo 0 then
        (assignGo nums sizes crcs fs (fo + 1) 0 (outs + 1) 0).map (fun r => some (fo, off, s, c) :: r)
      else (assignGo nums sizes crcs fs fo (input + 1) (outs + 1) (off + s)).map (fun r => some (fo, off, s, c) :: r) := by
  rw [assignGo, hsk, hs, hc]

/-! ### the implementation's cursor follows the format

The format's cursor (`folder`, `taken`, `off`, the counts from `folder` on) moves to the next folder only when a file
needs a stream; py7zr's (`fi`, `input`, `offi`) moves behind a folder as soon as its last stream is taken, and skips
stream-less folders only when the next file with a stream comes.  Between two files they stand in one of three ways. -/

/-- how the two cursors correspond between files:
    at the start of a folder, py7zr's cursor possibly some stream-less folders behind;
    or both inside the same folder, after the same number of streams, at the same offset;
    or the format still in a folder all of whose streams are taken, py7zr already behind it -/
def AssignRel (numsAll : List Nat) (folder taken off : Nat) (numsRem : List Nat) (fi input offi : Nat) : Prop :=
  (taken = 0 ∧ off = 0 ∧ input = 0 ∧ offi = 0 ∧ fi ≤ folder ∧ ∀ j, fi ≤ j → j < folder → numsAll[j]? = some 0)
  ∨ (0 < taken ∧ fi = folder ∧ input = taken ∧ offi = off ∧ ∃ n ns, numsRem = n :: ns ∧ taken < n)
  ∨ (∃ n ns, numsRem = n :: ns ∧ taken = n ∧ 0 < n ∧ fi = folder + 1 ∧ input = 0 ∧ offi = 0)

/-- the format moves on to the next folder; the implementation's cursor stays put -/
theorem AssignRel.next {numsAll ns : List Nat} {folder taken off n fi input offi : Nat}
    (h : AssignRel numsAll folder taken off (n :: ns) fi input offi) (hnf : numsAll[folder]? = some n) (hge : n ≤ taken) :
    AssignRel numsAll (folder + 1) 0 0 ns fi input offi := by
  rcases h with ⟨ht, _, hi, hoi, hle, hz⟩ | ⟨_, _, _, _, n', ns', heq, hlt⟩ | ⟨n', ns', heq, _, _, hfi, hi, hoi⟩
  · -- at the start of a folder with no streams
    refine Or.inl ⟨rfl, rfl, hi, hoi, Nat.le_succ_of_le hle, fun j h1 h2 => ?_⟩
    by_cases hj : j < folder
    · exact hz j h1 hj
    · have hjf : j = folder := by omega
      have hn0 : n = 0 := by omega
      rw [hjf, hnf, hn0]
  · cases heq; exact absurd hge (Nat.not_le.2 hlt)
  · exact Or.inl ⟨rfl, rfl, hi, hoi, Nat.le_of_eq hfi, fun j h1 h2 => absurd (hfi ▸ h1) (Nat.not_le.2 h2)⟩

/-- a stream is left in the format's folder: that is where the implementation's cursor lands -/
theorem AssignRel.lands {numsAll ns : List Nat} {folder taken off n fi input offi : Nat}
    (h : AssignRel numsAll folder taken off (n :: ns) fi input offi) (hnf : numsAll[folder]? = some n) (hlt : taken < n) :
    skipZero numsAll (numsAll.length + 1) fi = some folder ∧ input = taken ∧ offi = off := by
  have hlen : folder < numsAll.length := (List.getElem?_eq_some_iff.1 hnf).1
  have hfuel : ∀ i, folder - i < numsAll.length + 1 := fun i => Nat.lt_succ_of_le (Nat.le_trans (Nat.sub_le _ _) (Nat.le_of_lt hlen))
  rcases h with ⟨ht, ho, hi, hoi, hle, hz⟩ | ⟨_, hfi, hi, hoi, _⟩ | ⟨n', ns', heq, ht, _⟩
  · exact ⟨skipZero_zeros numsAll fi folder n _ hz hnf (Nat.zero_lt_of_lt hlt) hle (hfuel fi), hi.trans ht.symm, hoi.trans ho.symm⟩
  · subst hfi
    exact ⟨skipZero_zeros numsAll fi fi n _ (fun j h1 h2 => absurd h2 (Nat.not_lt.2 h1)) hnf (Nat.zero_lt_of_lt hlt) (Nat.le_refl _)
      (hfuel fi), hi, hoi⟩
  · cases heq; exact absurd hlt (ht ▸ Nat.lt_irrefl _)

theorem drop_eq_cons {α} {l : List α} {i : Nat} {a : α} {t : List α} (h : l.drop i = a :: t) :
    l[i]? = some a ∧ l.drop (i + 1) = t :=
  ⟨by rw [← List.head?_drop, h, List.head?_cons], by rw [List.drop_add_one_eq_tail_drop, h, List.tail_cons]⟩

/-- after the folder's last stream: the format stays in the used-up folder, py7zr's cursor is already behind it -/
theorem AssignRel.took_last {numsAll ns : List Nat} {folder taken n : Nat} (hlt : taken < n) (hlast : taken + 1 ≥ n) {off' : Nat} :
    AssignRel numsAll folder (taken + 1) off' (n :: ns) (folder + 1) 0 0 :=
  Or.inr (Or.inr ⟨n, ns, rfl, by omega, Nat.zero_lt_of_lt hlt, rfl, rfl, rfl⟩)

/-- after a stream that is not the folder's last: both cursors inside the folder, one stream and `s` bytes further -/
theorem AssignRel.took {numsAll ns : List Nat} {folder taken n : Nat} (hmore : taken + 1 < n) {off' : Nat} :
    AssignRel numsAll folder (taken + 1) off' (n :: ns) folder (taken + 1) off' :=
  Or.inr (Or.inl ⟨Nat.succ_pos _, rfl, rfl, rfl, n, ns, rfl, hmore⟩)

theorem AssignRel.init (nums : List Nat) : AssignRel nums 0 0 0 nums 0 0 0 :=
  Or.inl ⟨rfl, rfl, rfl, rfl, Nat.le_refl _, fun j _ h2 => absurd h2 (Nat.not_lt_zero j)⟩

/-- the simulation: from corresponding positions, on a successful assignment of the format (a derivation of
    `Spec.Assigns`), py7zr's cursor hands out the same folder, offset, size and digest to every file -/
theorem assign_refine_go (numsAll sizesAll : List Nat) (crcsAll : List (Option Nat))
    {files folder taken off numsRem sizesRem crcsRem ms}
    (h : Spec.Assigns files folder taken off numsRem sizesRem crcsRem ms) :
    ∀ (fi input outs offi : Nat), numsAll.drop folder = numsRem → sizesAll.drop outs = sizesRem → crcsAll.drop outs = crcsRem →
      AssignRel numsAll folder taken off numsRem fi input offi →
      Impl.assignGo numsAll sizesAll crcsAll (files.map (·.emptyStream)) fi input outs offi =
        some (ms.map (·.stream)) := by
  induction h with
  | nil => intros; rfl
  | empty he _ ih =>
    intro fi input outs offi hn hs hc hrel
    rw [List.map_cons, he, assignGo_true, ih fi input outs offi hn hs hc hrel]; rfl
  | @next f fs folder taken off n ns sizesRem crcsRem r he hge _ ih =>
    intro fi input outs offi hn hs hc hrel
    obtain ⟨hnf, hn'⟩ := drop_eq_cons hn
    exact ih fi input outs offi hn' hs hc (hrel.next hnf hge)
  | @take f fs folder taken off n ns s ss c cs r he hlt _ ih =>
    intro fi input outs offi hn hs hc hrel
    obtain ⟨hnf, -⟩ := drop_eq_cons hn
    obtain ⟨hso, hs'⟩ := drop_eq_cons hs
    obtain ⟨hco, hc'⟩ := drop_eq_cons hc
    obtain ⟨hskip, rfl, rfl⟩ := hrel.lands hnf hlt
    rw [List.map_cons, he, assignGo_false _ input offi hskip hso hco, show numsAll.getD folder 0 = n by simp [List.getD, hnf]]
    by_cases hlast : input + 1 ≥ n
    · -- the folder's last stream: the implementation's cursor moves behind it at once
      rw [if_pos hlast, ih (folder + 1) 0 (outs + 1) 0 hn hs' hc' (.took_last hlt hlast)]
      rfl
    · rw [if_neg hlast, ih folder (input + 1) (outs + 1) (offi + s) hn hs' hc' (.took (Nat.lt_of_not_le hlast))]
      rfl

theorem assign_refines (files : List Spec.SFile) (nums sizes : List Nat) (crcs : List (Option Nat)) (ms : List Spec.SMember)
    (h : Spec.assign files nums sizes crcs = .ok ms) :
    Impl.assign (files.map (·.emptyStream)) nums sizes crcs = some (ms.map (·.stream)) :=
  assign_refine_go nums sizes crcs (Spec.assigns_of_assignGo _ _ _ _ _ _ _ _ _ h) 0 0 0 0 rfl rfl rfl (.init nums)

/-! ### appending never moves an earlier member -/

theorem skipZero_some_lt (nums : List Nat) : ∀ (fuel fi fo : Nat), skipZero nums fuel fi = some fo →
    fo < nums.length := by
  intro fuel
  induction fuel with
  | zero => intro fi fo h; simp [skipZero] at h
  | succ fuel ih =>
    intro fi fo h
    unfold skipZero at h
    cases hg : nums[fi]? with
    | none => rw [hg] at h; simp at h
    | some v =>
      rw [hg] at h
      cases v with
      | zero => exact ih _ _ h
      | succ k =>
        simp only [Option.some.injEq] at h
        subst h
        exact (List.getElem?_eq_some_iff.1 hg).1

theorem skipZero_ext (nums nums' : List Nat) : ∀ (fuel fuel' fi fo : Nat), skipZero nums fuel fi = some fo →
    fuel ≤ fuel' → skipZero (nums ++ nums') fuel' fi = some fo := by
  intro fuel
  induction fuel with
  | zero => intro fuel' fi fo h; simp [skipZero] at h
  | succ fuel ih =>
    intro fuel' fi fo h hle
    cases fuel' with
    | zero => omega
    | succ fuel' =>
      unfold skipZero at h ⊢
      cases hg : nums[fi]? with
      | none => rw [hg] at h; simp at h
      | some v =>
        have hlt : fi < nums.length := (List.getElem?_eq_some_iff.1 hg).1
        rw [List.getElem?_append_left hlt, hg]
        rw [hg] at h
        cases v with
        | zero => exact ih fuel' _ _ h (by omega)
        | succ k => exact h

theorem prefix_step {α} {a : α} {o o' : Option (List α)} {r r' : List α} {n : Nat}
    (h : o.map (a :: ·) = some r) (h' : o'.map (a :: ·) = some r')
    (ih : ∀ r0, o = some r0 → ∀ r0', o' = some r0' → r0'.take n = r0) : r'.take (n + 1) = r := by
  obtain ⟨r0, hr, rfl⟩ := Option.map_eq_some_iff.1 h
  obtain ⟨r0', hr', rfl⟩ := Option.map_eq_some_iff.1 h'
  rw [List.take_succ_cons, ih r0 hr r0' hr']

/-- running the cursor over `flags ++ flags'` with every list extended at the end gives, for
    the first `flags.length` members, exactly what it gave before -/
theorem assignGo_prefix (nums sizes : List Nat) (crcs : List (Option Nat)) (nums' sizes' : List Nat) (crcs' : List (Option Nat))
    (flags' : List Bool) : ∀ (flags : List Bool) (folder input outs off : Nat) (r : List Slot4),
    assignGo nums sizes crcs flags folder input outs off = some r →
    ∀ r', assignGo (nums ++ nums') (sizes ++ sizes') (crcs ++ crcs') (flags ++ flags') folder input outs off = some r' →
      r'.take flags.length = r := by
  intro flags
  induction flags with
  | nil =>
    intro folder input outs off r h r' _
    simp [assignGo] at h
    subst h; simp
  | cons b fs ih =>
    intro folder input outs off r h r' h'
    cases b with
    | true =>
      rw [assignGo_true] at h
      rw [List.cons_append, assignGo_true] at h'
      exact prefix_step h h' (ih folder input outs off)
    | false =>
      cases hsk : skipZero nums (nums.length + 1) folder with
      | none => simp [assignGo, hsk] at h
      | some fo =>
        have hfo := skipZero_some_lt nums _ _ _ hsk
        have hsk' := skipZero_ext nums nums' _ ((nums ++ nums').length + 1) folder fo hsk (by simp)
        cases hs : sizes[outs]? with
        | none => simp [assignGo, hsk, hs] at h
        | some s =>
          cases hc : crcs[outs]? with
          | none => simp [assignGo, hsk, hs, hc] at h
          | some c =>
            have hs' : (sizes ++ sizes')[outs]? = some s := by
              rw [List.getElem?_append_left (List.getElem?_eq_some_iff.1 hs).1, hs]
            have hc' : (crcs ++ crcs')[outs]? = some c := by
              rw [List.getElem?_append_left (List.getElem?_eq_some_iff.1 hc).1, hc]
            have hgd : (nums ++ nums').getD fo 0 = nums.getD fo 0 := by
              simp [List.getD, List.getElem?_append_left hfo]
            rw [assignGo_false fs input off hsk hs hc] at h
            rw [List.cons_append, assignGo_false _ input off hsk' hs' hc', hgd] at h'
            -- both runs take the same branch
            by_cases hlast : input + 1 ≥ nums.getD fo 0
            · rw [if_pos hlast] at h h'
              exact prefix_step h h' (ih (fo + 1) 0 (outs + 1) 0)
            · rw [if_neg hlast] at h h'
              exact prefix_step h h' (ih fo (input + 1) (outs + 1) (off + s))

end SevenZ
