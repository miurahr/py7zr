/-
Accounting theorems for the compressor model: whatever the codec stages do and however the
source is cut into blocks, the counters py7zr stores in the header describe the bytes.
-/
import SevenZ.Model.Compressor
import SevenZ.Lemmas.Crc32
namespace SevenZ
open Impl

/-- `_unpacksizes[0]` -/
def headFed {σ} : List (StageSt σ) → Nat
  | [] => 0
  | c :: _ => c.fed

theorem feedChain_length {σ} : ∀ (ch : List (StageSt σ)) (d : Bytes), (feedChain ch d).1.length = ch.length := by
  intro ch
  induction ch with
  | nil => intro d; rfl
  | cons c cs ih => intro d; simp [feedChain, ih]

theorem flushChain_length {σ} : ∀ (ch : List (StageSt σ)) (d : Option Bytes), (flushChain ch d).1.length = ch.length := by
  intro ch
  induction ch with
  | nil => intro d; rfl
  | cons c cs ih =>
    intro d
    unfold flushChain
    split <;> simp [ih]

theorem feedChain_headFed {σ} (ch : List (StageSt σ)) (d : Bytes) (h : ch ≠ []) :
    headFed (feedChain ch d).1 = headFed ch + d.length := by
  cases ch with
  | nil => exact absurd rfl h
  | cons c cs => rfl

/-- flushing never feeds the first stage: its counter is the caller's input alone -/
theorem flushChain_none_headFed {σ} (ch : List (StageSt σ)) :
    headFed (flushChain ch none).1 = headFed ch := by
  cases ch <;> rfl

/-- `c'` is `c` some writes later: what was written is accounted for in `packsize` and `digest`,
    the chain has kept its length, and its first stage has been fed `n` more bytes.  The two
    conditions a fresh compressor meets are asked of `c` inside the relation, where `trans`
    hands them on, so that no statement below has to carry them. -/
structure Step {σ} (c c' : Cmp σ) (n : Nat) : Prop where
  length : c'.chain.length = c.chain.length
  fed : c.chain ≠ [] → headFed c'.chain = headFed c.chain + n
  wrote : ∃ w, c'.out = c.out ++ w ∧ c'.packsize = c.packsize + w.length ∧
    (c.digest < 2 ^ 32 → c'.digest = crc32Update c.digest w)

theorem Step.refl {σ} (c : Cmp σ) : Step c c 0 :=
  ⟨rfl, fun _ => rfl, [], (List.append_nil _).symm, rfl, fun h => (crc32Update_nil _ h).symm⟩

theorem Step.trans {σ} {a b c : Cmp σ} {n1 n2 : Nat} (h1 : Step a b n1) (h2 : Step b c n2) : Step a c (n1 + n2) := by
  obtain ⟨l1, f1, w1, o1, p1, d1⟩ := h1
  obtain ⟨l2, f2, w2, o2, p2, d2⟩ := h2
  refine ⟨l2.trans l1, fun h => ?_, w1 ++ w2, by rw [o2, o1, List.append_assoc],
    by rw [p2, p1, List.length_append, Nat.add_assoc], fun h => ?_⟩
  · rw [f2 (List.length_pos_iff.mp (l1 ▸ List.length_pos_iff.mpr h)), f1 h, Nat.add_assoc]
  · rw [d2 (d1 h ▸ crc32Update_lt _ _), d1 h, crc32Update_append]

theorem compressBlock_step {σ} (c : Cmp σ) (d : Bytes) : Step c (compressBlock c d) d.length :=
  ⟨feedChain_length _ _, feedChain_headFed _ _, _, rfl, rfl, fun _ => rfl⟩

theorem flushCmp_step {σ} (c : Cmp σ) : Step c (flushCmp c).1 0 := by
  have hl := flushChain_length c.chain none
  have hf := flushChain_none_headFed c.chain
  unfold flushCmp
  dsimp only
  cases (flushChain c.chain none).2 with
  | none => exact ⟨hl, fun _ => hf, (Step.refl c).wrote⟩
  | some data => exact ⟨hl, fun _ => hf, data, rfl, rfl, fun _ => rfl⟩

theorem compressMember_fold {σ} (blocks : List Bytes) : ∀ acc : MemberResult σ, acc.crc < 2 ^ 32 →
    let r := blocks.foldl (fun acc data =>
      let c' := compressBlock acc.cmp data
      ({ cmp := c', insize := acc.insize + data.length, foutsize := acc.foutsize + (c'.packsize - acc.cmp.packsize),
         crc := crc32Update acc.crc data } : MemberResult σ)) acc
    Step acc.cmp r.cmp blocks.flatten.length ∧ r.insize = blocks.flatten.length + acc.insize ∧
    r.crc = crc32Update acc.crc blocks.flatten := by
  induction blocks with
  | nil => exact fun acc hc => ⟨Step.refl _, (Nat.zero_add _).symm, (crc32Update_nil _ hc).symm⟩
  | cons b bs ih =>
    intro acc hc
    obtain ⟨h1, h2, h3⟩ := ih ⟨compressBlock acc.cmp b, acc.insize + b.length,
      acc.foutsize + ((compressBlock acc.cmp b).packsize - acc.cmp.packsize), crc32Update acc.crc b⟩ (crc32Update_lt _ _)
    simp only [List.foldl_cons, List.flatten_cons, List.length_append] at h1 h2 h3 ⊢
    exact ⟨(compressBlock_step acc.cmp b).trans h1, by omega, by rw [h3, crc32Update_append]⟩

/-- `compress(fd, fp)` for one member, for ANY chain of codec stages and ANY cutting of the
    source into blocks: the returned size and CRC are those of the member's bytes and the first
    stage's counter grows by exactly that size -/
theorem compressMember_spec {σ} (c : Cmp σ) (blocks : List Bytes) :
    Step c (compressMember c blocks).cmp blocks.flatten.length ∧
    (compressMember c blocks).insize = blocks.flatten.length ∧
    (compressMember c blocks).crc = crc32 blocks.flatten :=
  compressMember_fold blocks ⟨c, 0, 0, 0⟩ (Nat.two_pow_pos 32)

theorem compressAll_spec {σ} (members : List (List Bytes)) : ∀ c : Cmp σ,
    Step c (compressAll c members).1 (members.map (fun m => m.flatten.length)).sum ∧
    (compressAll c members).2 = members.map (fun m => (m.flatten.length, crc32 m.flatten)) := by
  induction members with
  | nil => exact fun c => ⟨Step.refl c, rfl⟩
  | cons m ms ih =>
    intro c
    obtain ⟨h1, h2, h3⟩ := compressMember_spec c m
    obtain ⟨i1, i2⟩ := ih (compressMember c m).cmp
    exact ⟨h1.trans i1, by simp only [compressAll, List.map_cons, i2, h2, h3]⟩

theorem compressor_accounting {σ} (chain : List (StageSt σ)) (hne : chain ≠ []) (hfed : headFed chain = 0)
    (members : List (List Bytes)) :
    let c0 : Cmp σ := { chain := chain }
    let r := compressAll c0 members
    let f := flushCmp r.1
    r.2 = members.map (fun m => (m.flatten.length, crc32 m.flatten)) ∧
    headFed f.1.chain = (members.map (fun m => m.flatten.length)).sum ∧
    f.1.packsize = f.1.out.length ∧ f.1.digest = crc32 f.1.out ∧ f.1.chain.length = chain.length := by
  intro c0 r f
  obtain ⟨h1, h2⟩ := compressAll_spec members c0
  obtain ⟨hl, hf, w, ho, hp, hd⟩ := h1.trans (flushCmp_step r.1)
  refine ⟨h2, by rw [hf hne, hfed]; simp, ?_, ?_, hl⟩
  · rw [hp, ho]; simp [c0]
  · rw [hd (Nat.two_pow_pos 32), ho]; simp [c0, crc32]

theorem unpacksizesGo_spec (fed : List Nat) : ∀ (ms : List Bool) (i shift : Nat) (prev : Bool) (result R : List Nat),
    result ≠ [] → unpacksizesGo fed ms i shift prev result = some R →
    R.getLast? = result.getLast? ∧ R.length = result.length + ms.length := by
  intro ms
  induction ms with
  | nil =>
    intro i shift prev result R _ h
    simp only [unpacksizesGo, Option.some.injEq] at h
    subst h; simp
  | cons m ms ih =>
    intro i shift prev result R hne h
    unfold unpacksizesGo at h
    simp only at h
    split at h
    · cases h
    · rename_i v hv
      obtain ⟨h1, h2⟩ := ih _ _ _ _ R (by simp) h
      refine ⟨?_, by rw [h2]; simp; omega⟩
      rw [h1]
      cases result with
      | nil => exact absurd rfl hne
      | cons a as => simp [List.getLast?_cons_cons]

/-- the per-coder list is as long as the filter list and its LAST entry — the unpack size of
    the folder's final output stream — is the first stage's counter -/
theorem unpacksizesOf_spec (m : Bool) (ms : List Bool) (fed R : List Nat) (h : unpacksizesOf (m :: ms) fed = some R) :
    R.getLast? = fed[0]? ∧ R.length = ms.length + 1 := by
  unfold unpacksizesOf unpacksizesGo at h
  simp only [Bool.and_false, Bool.false_eq_true, if_false, Nat.sub_zero] at h
  split at h
  · cases h
  · rename_i v hv
    obtain ⟨h1, h2⟩ := unpacksizesGo_spec fed ms 1 0 m [v] R (by simp) h
    refine ⟨by rw [h1, hv]; rfl, by rw [h2]; simp; omega⟩

end SevenZ
