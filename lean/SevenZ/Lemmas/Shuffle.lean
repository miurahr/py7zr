/-
Interleavings (`Shuffle`, `Interleave`) seen through a per-element projection `flatMap g`
(a filter, the bytes written to one output, the errors raised): an interleaving is a
permutation of the concatenation (`Interleave.perm`), a shuffle of two lists projects to a shuffle of the projections
(`Shuffle.flatMap`), and an interleaving shows a worker's projection unchanged when no other worker projects to anything
(`Interleave.flatMap_eq`).  Interleavings are
built from the concatenation (`Interleave.flatten`) or one scheduler step at a time (`Interleave.step`).
-/
import SevenZ.Model.Conc
namespace SevenZ

variable {α β : Type}

theorem Shuffle.perm {a b l : List α} (h : Shuffle a b l) : l.Perm (a ++ b) := by
  induction h with
  | nil => exact .refl _
  | left x _ ih => exact .cons x ih
  | right y _ ih => exact (List.Perm.cons y ih).trans List.perm_middle.symm

theorem Interleave.perm {ws : List (List α)} {l : List α} (h : Interleave ws l) : l.Perm ws.flatten := by
  induction h with
  | nil => exact .refl _
  | cons _ hs ih => exact hs.perm.trans (List.Perm.append_left _ ih)

theorem Shuffle.nil_left {b l : List α} (h : Shuffle [] b l) : l = b := by
  generalize ha : ([] : List α) = a at h
  induction h with
  | nil => rfl
  | left x _ _ => cases ha
  | right y _ ih => rw [ih ha]

theorem Shuffle.nil_right {a l : List α} (h : Shuffle a [] l) : l = a := by
  generalize hb : ([] : List α) = b at h
  induction h with
  | nil => rfl
  | left x _ ih => rw [ih hb]
  | right y _ _ => cases hb

theorem Shuffle.append_left (p : List α) {a b l : List α} (h : Shuffle a b l) : Shuffle (p ++ a) b (p ++ l) := by
  induction p with
  | nil => exact h
  | cons x p ih => exact .left x ih

theorem Shuffle.append_right (p : List α) {a b l : List α} (h : Shuffle a b l) : Shuffle a (p ++ b) (p ++ l) := by
  induction p with
  | nil => exact h
  | cons x p ih => exact .right x ih

theorem Shuffle.append (a b : List α) : Shuffle a b (a ++ b) := by
  simpa only [List.append_nil] using (Shuffle.nil.append_right b).append_left a

theorem Shuffle.flatMap (g : α → List β) {a b l : List α} (h : Shuffle a b l) :
    Shuffle (a.flatMap g) (b.flatMap g) (l.flatMap g) := by
  induction h with
  | nil => exact .nil
  | left x _ ih => exact ih.append_left (g x)
  | right y _ ih => exact ih.append_right (g y)

/-- workers that project to nothing leave nothing in the interleaving -/
theorem Interleave.flatMap_eq_nil (g : α → List β) {ws : List (List α)} {l : List α} (h : Interleave ws l)
    (hn : ∀ w ∈ ws, w.flatMap g = []) : l.flatMap g = [] := by
  rw [List.flatMap_eq_nil_iff]
  intro x hx
  obtain ⟨w, hw, hxw⟩ := List.mem_flatten.1 (h.perm.mem_iff.1 hx)
  exact List.flatMap_eq_nil_iff.1 (hn w hw) x hxw

/-- if only the worker `w` projects to anything, every interleaving shows exactly `w`'s
    projection, in `w`'s order -/
theorem Interleave.flatMap_eq (g : α → List β) {pre post : List (List α)} {w l : List α}
    (h : Interleave (pre ++ w :: post) l)
    (hpre : ∀ v ∈ pre, v.flatMap g = []) (hpost : ∀ v ∈ post, v.flatMap g = []) :
    l.flatMap g = w.flatMap g := by
  induction pre generalizing l with
  | nil =>
    cases h with
    | cons hi hs =>
      have := hs.flatMap g
      rw [hi.flatMap_eq_nil g hpost] at this
      exact this.nil_right
  | cons v pre ih =>
    cases h with
    | cons hi hs =>
      have := hs.flatMap g
      rw [hpre v (by simp)] at this
      rw [this.nil_left]
      exact ih hi fun u hu => hpre u (by simp [hu])

theorem Interleave.flatten (ws : List (List α)) : Interleave ws ws.flatten := by
  induction ws with
  | nil => exact .nil
  | cons w ws ih => exact .cons ih (Shuffle.append w _)

/-- the `i`-th worker moves first, the others interleave with what it has left -/
theorem Interleave.step (ws : List (List α)) (i : Nat) (s : α) (w' : List α) (l : List α)
    (hi : ws[i]? = some (s :: w')) (h : Interleave (ws.set i w') l) : Interleave ws (s :: l) := by
  induction ws generalizing i l with
  | nil => simp at hi
  | cons w0 ws0 ih =>
    cases i with
    | zero =>
      simp only [List.getElem?_cons_zero, Option.some.injEq] at hi
      subst hi
      simp only [List.set_cons_zero] at h
      cases h with
      | cons hI hs => exact .cons hI (.left s hs)
    | succ j =>
      simp only [List.getElem?_cons_succ] at hi
      simp only [List.set_cons_succ] at h
      cases h with
      | cons hI hs => exact .cons (ih j _ hi hI) (.right s hs)

theorem filter_eq_flatMap (p : α → Bool) (l : List α) : l.filter p = l.flatMap fun x => if p x then [x] else [] := by
  induction l with
  | nil => rfl
  | cons x l ih => rw [List.flatMap_cons, ← ih, List.filter_cons]; split <;> rfl

end SevenZ
