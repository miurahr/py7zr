/- Boolean vectors.  py7zr tests bits with masks, the format description with `/` and `%`: both are
   `Nat.testBit` (`and_two_pow_eq`, `unpackByte_eq`, `bits8_bitsVal`); on that the writer's packing and the reader's
   bit loop are inverse (`readBitsF_eq`, `bools_roundtrip`). -/
import SevenZ.Model.BoolVec
namespace SevenZ
open Impl

/-- the eight bits of a byte, most significant first, as the format description reads them -/
def bits8 (b : Nat) : List Bool := (List.range 8).map (fun i => decide ((b / 2 ^ (7 - i)) % 2 = 1))

theorem bits8_length (b : Nat) : (bits8 b).length = 8 := by simp [bits8]

theorem bits8_eq_testBit (b : Nat) : bits8 b = (List.range 8).map (fun i => b.testBit (7 - i)) := by
  simp only [bits8, Nat.testBit_eq_decide_div_mod_eq]

theorem and_two_pow (b j : Nat) : b &&& 2 ^ j = if b.testBit j then 2 ^ j else 0 := by
  refine Nat.eq_of_testBit_eq fun i => ?_
  rw [Nat.testBit_and]
  by_cases e : j = i
  · subst e; cases h : b.testBit j <;> simp
  · cases h : b.testBit j <;> simp [e]

theorem and_two_pow_ne_zero (b j : Nat) : (b &&& 2 ^ j != 0) = b.testBit j := by
  rw [and_two_pow]
  cases b.testBit j <;> simp

/-- py7zr tests one bit with a mask (`x & m != 0`, `x & m == m`), the format description says `x / m % 2 = 1` -/
theorem and_two_pow_eq (b j : Nat) : b &&& 2 ^ j = 2 ^ j ↔ b / 2 ^ j % 2 = 1 := by
  rw [and_two_pow, ← decide_eq_true_iff (p := b / 2 ^ j % 2 = 1), ← Nat.testBit_eq_decide_div_mod_eq]
  cases b.testBit j <;> simp [Nat.ne_of_lt (Nat.two_pow_pos j)]

/-- a coder's flag byte — id size in the low nibble, "complex" in bit 4, "has properties" in bit 5 — taken apart
    with masks as py7zr does and with `/` and `%` as the format description does -/
theorem flag_bits (f : Nat) : f &&& 0xF = f % 16 ∧ ((f &&& 0x10) = 0x10 ↔ (f / 16) % 2 = 1) ∧
    ((f &&& 0x20) = 0x20 ↔ (f / 32) % 2 = 1) :=
  ⟨Nat.and_two_pow_sub_one_eq_mod f 4, and_two_pow_eq f 4, and_two_pow_eq f 5⟩

/-- `read_boolean`'s mask test `b & (0x80 >> i) != 0` reads the bit the format description calls `b / 2^(7-i) % 2` -/
theorem unpackByte_eq (b k : Nat) (hk : k ≤ 8) : unpackByte b k = (bits8 b).take k := by
  rw [bits8_eq_testBit, ← List.map_take, List.take_range, Nat.min_eq_left hk]
  apply List.map_congr_left
  intro i hi
  have hi : i < 8 := by have := List.mem_range.mp hi; omega
  have : 0x80 >>> i = 2 ^ (7 - i) := (by decide : ∀ i < 8, 0x80 >>> i = 2 ^ (7 - i)) i hi
  rw [this, and_two_pow_ne_zero]

theorem testBit_head (b : Bool) (k r : Nat) (hr : r < 2 ^ k) :
    (if b then 2 ^ k else 0) + r < 2 ^ (k + 1) ∧ ((if b then 2 ^ k else 0) + r).testBit k = b ∧
    ∀ j, j < k → ((if b then 2 ^ k else 0) + r).testBit j = r.testBit j := by
  cases b with
  | false =>
    rw [if_neg (by decide), Nat.zero_add]
    exact ⟨Nat.lt_trans hr (Nat.pow_lt_pow_succ (by decide)), Nat.testBit_lt_two_pow hr, fun _ _ => rfl⟩
  | true =>
    rw [if_pos rfl]
    refine ⟨?_, ?_, fun j hj => Nat.testBit_two_pow_add_gt hj r⟩
    · rw [Nat.pow_succ, Nat.mul_two]; exact Nat.add_lt_add_left hr _
    · rw [Nat.testBit_two_pow_add_eq, Nat.testBit_lt_two_pow hr]; rfl

theorem bitsVal_testBit : ∀ (l : List Bool) (m : Nat), l.length ≤ m + 1 →
    bitsVal l (2 ^ m) < 2 ^ (m + 1) ∧ ∀ j, j ≤ m → (bitsVal l (2 ^ m)).testBit (m - j) = l.getD j false
  | [], m, _ => ⟨Nat.two_pow_pos _, fun j _ => Nat.zero_testBit _⟩
  | b :: bs, m, h => by
    -- below the head bit stands a value of one bit less (or nothing, if `m = 0`)
    have hr : bitsVal bs (2 ^ m / 2) < 2 ^ m ∧
        ∀ j, j < m → (bitsVal bs (2 ^ m / 2)).testBit (m - (j + 1)) = bs.getD j false := by
      cases m with
      | zero =>
        rw [List.eq_nil_of_length_eq_zero (Nat.le_zero.1 (Nat.le_of_succ_le_succ h))]
        exact ⟨Nat.one_pos, fun j hj => absurd hj (Nat.not_lt_zero j)⟩
      | succ m =>
        rw [Nat.pow_succ, Nat.mul_div_cancel _ (by decide)]
        obtain ⟨h1, h2⟩ := bitsVal_testBit bs m (Nat.le_of_succ_le_succ h)
        exact ⟨h1, fun j hj => by rw [Nat.add_sub_add_right]; exact h2 j (Nat.le_of_lt_succ hj)⟩
    obtain ⟨h1, h2, h3⟩ := testBit_head b m _ hr.1
    refine ⟨h1, fun j hj => ?_⟩
    cases j with
    | zero => exact h2
    | succ j => rw [bitsVal, h3 _ (by omega), List.getD_cons_succ]; exact hr.2 j (by omega)

theorem bits8_bitsVal (l : List Bool) (hl : l.length ≤ 8) :
    bits8 (bitsVal l 128) = l ++ List.replicate (8 - l.length) false := by
  rw [bits8_eq_testBit]
  apply List.ext_getElem (by simp; omega)
  intro i h1 h2
  have hi : i < 8 := by simpa using h1
  rw [List.getElem_map, List.getElem_range, (bitsVal_testBit l 7 hl).2 i (by omega), List.getElem_append]
  split
  · rw [List.getD_eq_getElem?_getD, List.getElem?_eq_getElem ‹_›]; rfl
  · rw [List.getElem_replicate, List.getD_eq_getElem?_getD, List.getElem?_eq_none (by omega)]; rfl

/-! ### eight bits to a byte

The writer's loop and the reader's both go through the bits in chunks of eight, on fuel; below the
fuel is disposed of once (`packBits_cons`, `readBitsF_eq`) and the chunks are counted once
(`bitsToBytes_step`). -/

/-- ⌈n/8⌉ = ⌈(n-8)/8⌉ + 1: a chunk of (up to) eight bits makes one byte -/
theorem bitsToBytes_step (n : Nat) (h : 0 < n) : bitsToBytes n = bitsToBytes (n - 8) + 1 := by
  unfold bitsToBytes
  rw [← Nat.add_div_right _ (by decide : 0 < 8)]
  by_cases h8 : n ≤ 8
  · rw [Nat.sub_eq_zero_of_le h8, Nat.div_eq_of_lt_le (k := 1) (by omega) (by omega)]
  · congr 1; omega

theorem chunk8_induction {motive : List Bool → Prop} (nil : motive [])
    (chunk : ∀ bs, bs ≠ [] → motive (bs.drop 8) → motive bs) (bs : List Bool) : motive bs := by
  induction h : bs.length using Nat.strongRecOn generalizing bs with
  | _ n ih =>
    cases bs with
    | nil => exact nil
    | cons b rest =>
      refine chunk _ (List.cons_ne_nil _ _) (ih _ ?_ _ rfl)
      rw [← h, List.length_drop, List.length_cons]; omega

theorem packBitsF_fuel : ∀ (f g : Nat) (bs : List Bool), bs.length ≤ f → bs.length ≤ g → packBitsF f bs = packBitsF g bs
  | f, g, [], _, _ => by cases f <;> cases g <;> rfl
  | 0, _, _ :: _, hf, _ => by simp at hf
  | _, 0, _ :: _, _, hg => by simp at hg
  | f + 1, g + 1, b :: rest, hf, hg => by
    have hd : ((b :: rest).drop 8).length ≤ rest.length := by rw [List.length_drop, List.length_cons]; omega
    simp only [List.length_cons, Nat.add_le_add_iff_right] at hf hg
    rw [packBitsF, packBitsF, packBitsF_fuel f g _ (Nat.le_trans hd hf) (Nat.le_trans hd hg)]

theorem packBits_cons (bs : List Bool) (h : bs ≠ []) :
    packBits bs = bitsVal (bs.take 8) 128 :: packBits (bs.drop 8) := by
  cases bs with
  | nil => exact absurd rfl h
  | cons b rest =>
    rw [packBits, List.length_cons, packBitsF, packBits]
    congr 1
    exact packBitsF_fuel _ _ _ (by rw [List.length_drop, List.length_cons]; omega) (Nat.le_refl _)

theorem packBits_length (bs : List Bool) : (packBits bs).length = bitsToBytes bs.length :=
  chunk8_induction (motive := fun bs => (packBits bs).length = bitsToBytes bs.length) rfl
    (fun bs h ih => by
      rw [packBits_cons bs h, List.length_cons, ih, List.length_drop,
        ← bitsToBytes_step _ (List.length_pos_iff.2 h)]) bs

theorem packBits_bits8 (bs : List Bool) : ∃ pad, (packBits bs).flatMap bits8 = bs ++ List.replicate pad false :=
  chunk8_induction (motive := fun bs => ∃ pad, (packBits bs).flatMap bits8 = bs ++ List.replicate pad false)
    ⟨0, rfl⟩
    (fun bs h ⟨pad, hp⟩ => by
      refine ⟨8 - (bs.take 8).length + pad, ?_⟩
      rw [packBits_cons bs h, List.flatMap_cons, hp, bits8_bitsVal _ (List.length_take_le _ _)]
      by_cases hshort : bs.length ≤ 8
      · -- the last chunk: its padding and the (empty) rest's
        rw [List.take_of_length_le hshort, List.drop_eq_nil_of_le hshort, List.nil_append, List.append_assoc,
          List.replicate_append_replicate]
      · -- a full chunk has no padding
        rw [List.length_take, Nat.min_eq_left (Nat.le_of_not_le hshort), Nat.sub_self, Nat.zero_add,
          List.replicate_zero, List.append_nil, ← List.append_assoc, List.take_append_drop]) bs

theorem readBitsF_eq : ∀ (n f : Nat) (bs : Bytes), n ≤ f → (n + 7) / 8 ≤ bs.length →
    readBitsF f n bs = some (((bs.take ((n + 7) / 8)).flatMap bits8).take n, bs.drop ((n + 7) / 8)) := by
  intro n
  induction n using Nat.strongRecOn with
  | _ n ih =>
    intro f bs hf hl
    by_cases hn : n = 0
    · subst hn
      cases f <;> simp [readBitsF]
    · obtain ⟨f', rfl⟩ : ∃ f', f = f' + 1 := ⟨f - 1, by omega⟩
      -- one byte for the first eight bits, the rest by induction
      rw [show (n + 7) / 8 = (n - 8 + 7) / 8 + 1 from bitsToBytes_step n (Nat.pos_of_ne_zero hn)] at hl ⊢
      cases bs with
      | nil => simp at hl
      | cons b rest =>
        simp only [readBitsF, hn, if_false, ← Nat.sub_eq_sub_min]
        rw [ih (n - 8) (by omega) f' rest (by omega) (Nat.le_of_succ_le_succ hl)]
        rw [List.take_succ_cons, List.flatMap_cons, List.take_append, bits8_length, List.drop_succ_cons,
          unpackByte_eq b _ (Nat.min_le_right _ _), List.take_eq_take_min (l := bits8 b) (i := n), bits8_length]

theorem bits_roundtrip (bs : List Bool) (tail : Bytes) :
    readBits bs.length (packBits bs ++ tail) = some (bs, tail) := by
  have hlen : (packBits bs).length = (bs.length + 7) / 8 := packBits_length bs
  obtain ⟨pad, hp⟩ := packBits_bits8 bs
  rw [readBits, readBitsF_eq _ _ _ (Nat.le_refl _) (by simp [hlen]), ← hlen, List.take_left', List.drop_left',
    hp, List.take_left'] <;> rfl

theorem all_id_replicate (bs : List Bool) (h : bs.all id = true) : List.replicate bs.length true = bs :=
  (List.eq_replicate_of_mem fun b hb => List.all_eq_true.mp h b hb).symm

theorem bools_roundtrip (bs : List Bool) (allDefined : Bool) (tail : Bytes) :
    readBools bs.length allDefined (writeBools bs allDefined ++ tail) = some (bs, tail) := by
  cases allDefined with
  | false => simp [writeBools, readBools, bits_roundtrip]
  | true =>
    by_cases hall : bs.all id = true
    · simp [writeBools, readBools, hall, all_id_replicate bs hall]
    · simp only [writeBools, Bool.true_and, hall, readBools, if_true]
      simp [bits_roundtrip]

theorem writeBools_length (bs : List Bool) :
    (writeBools bs false).length = bitsToBytes bs.length := by
  simp only [writeBools, Bool.false_and, Bool.false_eq_true, if_false, List.nil_append]
  exact packBits_length bs

end SevenZ
