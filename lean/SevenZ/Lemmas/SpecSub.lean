/-
The strict reader on the SubStreamsInfo section the writer model emits (`Impl.writeSubStreams`):
NumUnpackStream elided or present, explicit sizes (all but the last of each folder), digests
for any definedness pattern.
-/
import SevenZ.Lemmas.SpecProps
namespace SevenZ
open Impl Spec

/-- the sub-stream sizes tile each folder's output: `sizes` is cut into groups of `n` entries,
    one group per folder, and a non-empty group sums to the folder's unpack size -/
def SizesOK : List Nat → List SFolder → List Nat → Prop
  | [], _, sizes => sizes = []
  | _ :: _, [], _ => False
  | n :: ns, f :: fs, sizes =>
    n ≤ sizes.length ∧ (n = 0 ∨ folderOut f = .ok (sizes.take n).sum) ∧ SizesOK ns fs (sizes.drop n)

theorem sSubSizes_parses : ∀ (nums : List Nat) (sf : List SFolder) (sizes l : List Nat),
    SizesOK nums sf sizes → subSizesToWrite nums sizes = some l → (∀ v ∈ sizes, v < 2 ^ 64) →
    Parses (sSubSizes nums sf) (l.flatMap writeNumber) sizes
  | [], _, _, _, hok, hw, _ => by
    cases hw; cases (show _ = [] from hok); exact .pure _
  | _ :: _, [], _, _, hok, _, _ => hok.elim
  | n :: ns, f :: fs, sizes, l, ⟨hlen, hsum, hrest⟩, hw, hv => by
    obtain ⟨r, hr, rfl⟩ := subSizesToWrite_cons hlen hw
    have ih := sSubSizes_parses ns fs (sizes.drop n) r hrest hr fun v h => hv v (List.mem_of_mem_drop h)
    unfold sSubSizes
    by_cases h0 : n = 0
    · subst h0; simpa using ih
    obtain ⟨hdl, hle, hcat⟩ := take_dropLast hlen h0
    rw [if_neg h0, List.flatMap_append, hsum.resolve_left h0]
    refine .bind (sNumbers_parses hdl (fun v h => hv v (List.mem_of_mem_take (List.dropLast_subset _ h))) _) <|
      .if_neg (Nat.not_lt.2 hle) <| .bind_nil ih <| .of_val (.pure _) (by rw [hcat, List.take_append_drop])

/-- without a Size property every folder has at most one stream, whose size is the folder's -/
theorem implicit_sizes : ∀ (nums : List Nat) (sf : List SFolder) (sizes : List Nat),
    SizesOK nums sf sizes → (∀ n ∈ nums, n ≤ 1) →
    ∃ L, (nums.zip sf).mapM (fun ((n, f) : Nat × SFolder) =>
        if n = 0 then (Except.ok [] : Except String (List Nat)) else (folderOut f).map (fun t => [t])) = .ok L ∧
      L.flatten = sizes
  | [], _, _, hok, _ => ⟨[], rfl, hok.symm⟩
  | _ :: _, [], _, hok, _ => hok.elim
  | n :: ns, f :: fs, sizes, ⟨hlen, hsum, hrest⟩, hle => by
    obtain ⟨L, hL, hflat⟩ := implicit_sizes ns fs (sizes.drop n) hrest fun m hm => hle m (List.mem_cons_of_mem _ hm)
    rw [List.zip_cons_cons, List.mapM_cons, hL]
    -- a folder has no stream and contributes nothing, or one, whose size is the folder's
    obtain rfl | rfl := Nat.le_one_iff_eq_zero_or_eq_one.1 (hle n List.mem_cons_self)
    · exact ⟨[] :: L, rfl, hflat⟩
    · dsimp only
      rw [if_neg Nat.one_ne_zero, hsum.resolve_left Nat.one_ne_zero]
      refine ⟨[(sizes.take 1).sum] :: L, rfl, ?_⟩
      cases sizes with
      | nil => cases hlen
      | cons v vs => rw [List.flatten_cons, hflat]; rfl

theorem spreadCrcs_none : ∀ (nums : List Nat) (sf : List SFolder) (cs : List (Option Nat)),
    nums.length = sf.length → (∀ f ∈ sf, f.crc = none) → cs.length = nums.sum →
    spreadCrcs nums sf cs = .ok cs
  | [], _, cs, _, _, hl => by cases List.eq_nil_of_length_eq_zero hl; rfl
  | _ :: _, [], _, hl, _, _ => by cases hl
  | n :: ns, f :: fs, cs, hl, hc, hcl => by
    rw [List.sum_cons] at hcl
    rw [spreadCrcs, if_neg (by rw [hc f List.mem_cons_self]; exact fun h => Bool.false_ne_true h.2), if_neg (by omega),
      spreadCrcs_none ns fs (cs.drop n) (Nat.succ.inj hl) (fun g hg => hc g (List.mem_cons_of_mem _ hg))
        (by rw [List.length_drop, hcl, Nat.add_sub_cancel_left])]
    exact congrArg Except.ok (List.take_append_drop n cs)

/-- what the strict reader must recover as per-stream digests -/
def expectedSubCrcs (s : SubStreams) : List (Option Nat) :=
  (s.digestsdefined.zip s.digests).map (fun (d, c) => if d then some c else none)

theorem no_digest_replicate (dd : List Bool) (ds : List Nat) (hl : dd.length = ds.length) (h : dd.any id = false) :
    (dd.zip ds).map (fun ((d, c) : Bool × Nat) => if d then some c else none) = List.replicate dd.length none := by
  rw [← show (dd.zip ds).length = dd.length by simp [hl]]
  exact List.map_eq_replicate_iff.mpr fun x hx => by
    have : x.1 = false := by simpa using List.any_eq_false.mp h x.1 (List.of_mem_zip hx).1
    simp [this]

theorem sSubStreams_parses (s : SubStreams) (sf : List SFolder) (bytes : Bytes)
    (hw : writeSubStreams s = some bytes) (hne : s.numUnpack ≠ [])
    (hlen : s.numUnpack.length = sf.length) (hcrc : ∀ f ∈ sf, f.crc = none)
    (hn : ∀ n ∈ s.numUnpack, n < 2 ^ 64)
    (sizes : List Nat) (hs : s.unpacksizes = some sizes) (hok : SizesOK s.numUnpack sf sizes)
    (hv : ∀ v ∈ sizes, v < 2 ^ 64)
    (hdl : s.digestsdefined.length = s.numUnpack.sum) (hcl : s.digests.length = s.numUnpack.sum)
    (hc : ∀ c ∈ s.digests, c < 256 ^ 4) :
    Parses (sSubStreams sf) (bytes.drop 1) (s.numUnpack, sizes, expectedSubCrcs s) := by
  obtain ⟨l, hl, rfl⟩ := writeSubStreams_some hw hne
  change Parses _ ([numId s] ++ _) _
  unfold sSubStreams
  refine .bind (sByte_parses _ _) <| .bind (v := (s.numUnpack, sizeId s)) ?nums <|
    .bind (v := (sizes, digId s)) ?sizes <| .bind_nil (v := (expectedSubCrcs s, 0)) ?digests <|
    .if_neg (fun h => h rfl) ?fin
  case nums =>
    -- NumUnpackStream: present unless every folder has exactly one stream
    unfold numId
    by_cases hsolid : s.numUnpack.any (· ≠ 1) = true
    · rw [if_pos hsolid, if_pos hsolid]
      exact .if_pos rfl (.thenId (sNumbers_parses hlen hn _) (sByte_parses _ _))
    · rw [if_neg hsolid, if_neg hsolid, ← hlen, ← all_one_replicate _ (eq_false_of_ne_true hsolid)]
      exact .if_neg (sizeId_ne s) (.pure _)
  case sizes =>
    -- Size: present if some folder has several streams, otherwise each folder's size is its stream's
    unfold sizeId
    by_cases hmulti : s.numUnpack.any (· > 1) = true
    · obtain ⟨sizes', hs', hl'⟩ := hl hmulti
      cases hs.symm.trans hs'
      rw [if_pos hmulti, if_pos hmulti, if_pos hmulti]
      exact .if_pos rfl (.thenId (sSubSizes_parses _ _ _ _ hok hl' hv) (sByte_parses _ _))
    · obtain ⟨L, hL, rfl⟩ := implicit_sizes s.numUnpack sf sizes hok fun n h => by
        simpa using List.any_eq_false.mp (eq_false_of_ne_true hmulti) n h
      rw [if_neg hmulti, if_neg hmulti, if_neg hmulti, hL]
      exact .if_neg (digId_ne s) (.pure _)
  case digests =>
    -- Digests: no folder carries a CRC (`hcrc`), so every sub-stream's digest is still unknown and `spreadCrcs` returns them as read
    unfold digId
    rw [map_zip_fst (Nat.le_of_eq hlen) fun x hx => by simp [hcrc _ (List.of_mem_zip hx).2]]
    by_cases hd : s.digestsdefined.any id = true
    · rw [if_pos hd, if_pos hd, crcBytes_zip_filter, ← hdl]
      exact .if_pos rfl <| .bind (sBoolList_parses _ rfl _) <| .bind (sCrcs_parses _ _ (hcl.trans hdl.symm) hc _) <|
        .bind_nil (sByte_parses 0 _) (.pure _)
    · rw [if_neg hd, if_neg hd, expectedSubCrcs, no_digest_replicate _ _ (hdl.trans hcl.symm) (eq_false_of_ne_true hd), hdl]
      exact .if_neg (by decide) (.pure _)
  case fin =>
    rw [spreadCrcs_none s.numUnpack sf _ hlen hcrc (by simp [expectedSubCrcs, hdl, hcl])]
    exact .pure _

end SevenZ
