/-
Append sessions at the level of the archive file: an invariant of the archives py7zr writes
(create session, then any append sessions, raw header mode) that is established by a create
session, preserved by an append session, and implies that the strict archive reader recovers the
members of all sessions in order.
-/
import SevenZ.Lemmas.ImplSession
import SevenZ.Model.AppendSession
namespace SevenZ
open Impl Spec

/-- the unpack size of a linear folder, both as the format defines it and as py7zr computes it -/
def lastSize (f : Folder) : Nat := f.unpacksizes.getD (f.coders.length - 1) 0

theorem linear_unpackSize (f : Folder) (lf : LinearFolder f) : folderUnpackSize f = some (lastSize f) :=
  folderUnpackSize_linear f f.coders.length lf.ncoders.1 lf.pairs lf.nsizes

theorem LinearFolder.readBack (f : Folder) (lf : LinearFolder f) : LinearFolder (readBackFolder f) :=
  ⟨lf.ncoders, lf.simple, lf.coders, lf.ids, lf.props, lf.pairs, lf.nsizes, lf.sizes⟩

theorem readBack_lastSize (f : Folder) : lastSize (readBackFolder f) = lastSize f := rfl

theorem toSFolder_readBack (f : Folder) (lf : LinearFolder f) : toSFolder (readBackFolder f) = toSFolder f := by
  unfold toSFolder
  rw [(LinearFolder.readBack f lf).chain.packedOf_eq, lf.chain.packedOf_eq]
  rfl

/-! ### member records `Header._read` gives back unchanged: those whose names hold no backslash -/

theorem slotOpt_norm (s : Slot Nat) : slotOpt (normSlot s) = slotOpt s := by cases s <;> rfl

theorem fixSlash_id (n : List Nat) (h : ∀ ch ∈ n, ch ≠ 0x5C) : fixSlash n = n :=
  (List.map_congr_left fun ch hch => if_neg (h ch hch)).trans (List.map_id' n)

theorem toSFile_readBack (e : FileEntry) (hn : e.filename.isSome = true) (hs : ∀ ch ∈ nameOf e, ch ≠ 0x5C) :
    toSFile (readBackFile e) = toSFile e := by
  unfold toSFile readBackFile
  simp only [slotOpt_norm, fixSlash_id _ hs]
  rw [filename_eq hn]

theorem nameOf_readBack (g : FileEntry) (h : ∀ ch ∈ nameOf g, ch ≠ 0x5C) : nameOf (readBackFile g) = nameOf g :=
  fixSlash_id _ h

/-- `SizesOK` (the strict reader's view) and `ImplSizesOK` (py7zr's) for folders that are all linear, where the
    folder's unpack size is `lastSize` for both -/
def Tiles : List Nat → List Folder → List Nat → Prop
  | [], [], sizes => sizes = []
  | n :: ns, f :: fs, sizes => n ≤ sizes.length ∧ (n = 0 ∨ lastSize f = (sizes.take n).sum) ∧ Tiles ns fs (sizes.drop n)
  | _, _, _ => False

theorem Tiles.spec (nums : List Nat) (fs : List Folder) (sizes : List Nat) (hl : ∀ f ∈ fs, LinearFolder f)
    (h : Tiles nums fs sizes) : SizesOK nums (fs.map toSFolder) sizes := by
  -- the three equations of `Tiles`: both lists empty, both non-empty, lengths differ (there `Tiles` is `False`)
  fun_induction Tiles nums fs sizes with
  | case1 sizes => exact h
  | case2 n ns f fs sizes ih =>
    refine ⟨h.1, h.2.1.imp_right fun h2 => ?_, ih (fun g hg => hl g (by simp [hg])) h.2.2⟩
    rw [(hl f (by simp)).chain.folderOut_eq, ← h2]; rfl
  | case3 => exact h.elim

theorem Tiles.impl (nums : List Nat) (fs : List Folder) (sizes : List Nat) (hl : ∀ f ∈ fs, LinearFolder f)
    (h : Tiles nums fs sizes) : ImplSizesOK nums (fs.map readBackFolder) sizes := by
  fun_induction Tiles nums fs sizes with
  | case1 sizes => exact h
  | case2 n ns f fs sizes ih =>
    refine ⟨h.1, h.2.1.imp_right fun h2 => ?_, ih (fun g hg => hl g (by simp [hg])) h.2.2⟩
    rw [linear_unpackSize _ (LinearFolder.readBack f (hl f (by simp))), readBack_lastSize, h2]
  | case3 => exact h.elim

theorem Tiles.length_eq (nums : List Nat) (fs : List Folder) (sizes : List Nat) (h : Tiles nums fs sizes) :
    nums.length = fs.length ∧ sizes.length = nums.sum := by
  fun_induction Tiles nums fs sizes with
  | case1 sizes => cases h; simp
  | case2 n ns f fs sizes ih =>
    obtain ⟨i1, i2⟩ := ih h.2.2
    have h1 := h.1
    simp only [List.length_drop] at i2
    simp only [List.length_cons, List.sum_cons]; omega
  | case3 => exact h.elim

theorem Tiles.append (nums : List Nat) (fs : List Folder) (sizes : List Nat) (n2 : Nat) (f2 : Folder) (sizes2 : List Nat)
    (h : Tiles nums fs sizes) (hn : sizes2.length = n2) (hs : n2 = 0 ∨ lastSize f2 = sizes2.sum) :
    Tiles (nums ++ [n2]) (fs ++ [f2]) (sizes ++ sizes2) := by
  fun_induction Tiles nums fs sizes with
  | case1 sizes =>
    cases h
    exact ⟨by simp [hn], hs.imp_right fun hs => by rw [hs, ← hn, List.nil_append, List.take_length], by simp [← hn, Tiles]⟩
  | case2 n ns f fs sizes ih =>
    refine ⟨by simp; have := h.1; omega, h.2.1.imp_right fun h2 => ?_, ?_⟩
    · rw [List.take_append_of_le_length h.1]; exact h2
    · rw [List.drop_append_of_le_length h.1]; exact ih h.2.2
  | case3 => exact h.elim

theorem Tiles.readBack (nums : List Nat) (fs : List Folder) (sizes : List Nat) (h : Tiles nums fs sizes) :
    Tiles nums (fs.map readBackFolder) sizes := by
  fun_induction Tiles nums fs sizes with
  | case1 sizes => exact h
  | case2 n ns f fs sizes ih => exact ⟨h.1, h.2.1, ih h.2.2⟩
  | case3 => exact h.elim

/-- without a Size property (`unpacksizes is None`) `Header.initialize()` rebuilds the sizes from
    the folders: they are the tiling sizes when no folder has more than one stream -/
theorem implicitSizes_tiles : ∀ (nums : List Nat) (fs : List Folder) (sizes : List Nat),
    (∀ f ∈ fs, LinearFolder f) → Tiles nums fs sizes → (∀ n ∈ nums, n ≤ 1) → ∀ extra,
    implicitSizes (fs.map readBackFolder ++ extra) nums = some sizes := by
  intro nums fs sizes hl h hle extra
  fun_induction Tiles nums fs sizes with
  | case1 sizes => cases h; cases extra <;> rfl
  | case2 n ns f fs sizes ih =>
    obtain ⟨h1, h2, h3⟩ := h
    have ih' := ih (fun g hg => hl g (List.mem_cons_of_mem _ hg)) h3 fun m hm => hle m (List.mem_cons_of_mem _ hm)
    rw [List.map_cons, List.cons_append, implicitSizes]
    -- a folder has no stream and contributes nothing, or one, whose size is the folder's
    obtain rfl | rfl := Nat.le_one_iff_eq_zero_or_eq_one.1 (hle n List.mem_cons_self)
    · rw [if_neg Nat.zero_ne_one, ih']; rfl
    · rw [if_pos rfl, linear_unpackSize _ (.readBack f (hl f List.mem_cons_self)), readBack_lastSize, ih',
        h2.resolve_left Nat.one_ne_zero]
      cases sizes with
      | nil => cases h1
      | cons v vs => rfl
  | case3 => exact h.elim

/-- what `Header._read` makes of it -/
def HParts.readBack (c : HParts) : HParts :=
  { p := readBackPack c.p, fs := c.fs.map readBackFolder, ss := readBackSub c.ss c.sizes, sizes := c.sizes,
    fi := { files := c.fi.files.map readBackFile, emptyfiles := [] } }

/-- the header objects py7zr holds for the archives it writes (raw header mode): packed streams
    one per folder, tiling the data area; pack digests for all streams or for none; linear
    folders; every sub-stream with a digest; readable member records whose names hold no backslash -/
structure Inv (c : HParts) (area : Bytes) : Prop where
  usizes : c.ss.unpacksizes = some c.sizes
  packpos : c.p.packpos = 0
  nstreams : c.p.numstreams = c.fs.length
  npack : c.p.packsizes.length = c.fs.length
  packsum : c.p.packsizes.sum = area.length
  areaBound : area.length < 2 ^ 64
  digests : (c.p.enableDigests = false ∧ c.p.digestdefined = [] ∧ c.p.crcs = []) ∨
    (c.p.enableDigests = true ∧ c.p.digestdefined = List.replicate c.fs.length true ∧ c.p.crcs.length = c.fs.length ∧
      ∀ x ∈ c.p.crcs, x < 256 ^ 4)
  fne : c.fs ≠ []
  nfolders : c.fs.length < 2 ^ 64
  linear : ∀ f ∈ c.fs, LinearFolder f
  nums : ∀ n ∈ c.ss.numUnpack, n < 2 ^ 64
  tiles : Tiles c.ss.numUnpack c.fs c.sizes
  sizesBound : ∀ v ∈ c.sizes, v < 2 ^ 64
  dd : c.ss.digestsdefined = List.replicate c.ss.numUnpack.sum true
  dlen : c.ss.digests.length = c.ss.numUnpack.sum
  dbound : ∀ x ∈ c.ss.digests, x < 256 ^ 4
  files : ReadableFiles c.fi
  noSlash : ∀ e ∈ c.fi.files, ∀ ch ∈ nameOf e, ch ≠ 0x5C
  streamsLeFiles : c.ss.numUnpack.sum ≤ c.fi.files.length

theorem mem_le_sum (l : List Nat) (m : Nat) (h : m ∈ l) : m ≤ l.sum := by
  obtain ⟨s, t, rfl⟩ := List.append_of_mem h
  rw [List.sum_append_nat, List.sum_cons]; omega

theorem Inv.wfPack {c : HParts} {area : Bytes} (inv : Inv c area) : WFPack c.p := by
  refine ⟨by rw [inv.packpos]; decide, by rw [inv.nstreams]; exact inv.nfolders, ?_, ?_, ?_⟩
  · intro v hv
    have := mem_le_sum _ _ hv
    have := inv.packsum; have := inv.areaBound; omega
  · intro he
    rcases inv.digests with ⟨h1, h2, _⟩ | ⟨_, h2, _, _⟩
    · rw [h1, h2] at he; simp at he
    · rw [h2, inv.nstreams]; simp
  · rcases inv.digests with ⟨_, _, h3⟩ | ⟨_, _, _, h4⟩
    · rw [h3]; simp
    · exact h4

theorem Inv.wfStreams {c : HParts} {area : Bytes} (inv : Inv c area) : WFStreams c.streams c.p c.fs c.ss c.sizes :=
  { hp := rfl
    hf := rfl
    hs := rfl
    pack := inv.wfPack
    nfolders := inv.nfolders
    fne := inv.fne
    folders := fun f hf => (inv.linear f hf).chain.wf
    packedCount := by
      rw [inv.npack]
      exact sum_map_one c.fs _ fun f hf => by rw [(inv.linear f hf).chain.packedOf_eq]; rfl
    nlen := (Tiles.length_eq _ _ _ inv.tiles).1
    nums := inv.nums
    usizes := inv.usizes
    tiles := Tiles.spec _ _ _ inv.linear inv.tiles
    sizesBound := inv.sizesBound
    ddlen := by rw [inv.dd]; simp
    dlen := inv.dlen
    dbound := inv.dbound }

theorem Inv.linearStreams {c : HParts} {area : Bytes} (inv : Inv c area) : LinearStreams c.streams c.p c.fs c.ss c.sizes :=
  { hp := rfl
    hf := rfl
    hs := rfl
    pack := inv.wfPack
    nfolders := inv.nfolders
    fne := inv.fne
    folders := inv.linear
    nlen := (Tiles.length_eq _ _ _ inv.tiles).1
    nums := inv.nums
    usizes := inv.usizes
    tiles := Tiles.impl _ _ _ inv.linear inv.tiles
    sizesBound := inv.sizesBound
    ddlen := by rw [inv.dd]; simp
    dlen := inv.dlen
    dbound := inv.dbound }

/-- an image of the shape every archive py7zr writes has: signature header, the packed streams
    of all sessions, the header, and whatever an earlier, longer file left behind -/
def imageOf (area hdr junk : Bytes) : Bytes :=
  sigHeaderBytes area.length hdr.length (crc32 hdr) ++ area ++ hdr ++ junk

/-- **Reading an archive that satisfies the invariant**: the strict archive reader accepts it,
    the packed sizes tile the data area exactly, and the members are the header object's content;
    py7zr's own reader returns the read-back form of the header object. -/
theorem Inv.reads {c : HParts} {area : Bytes} (inv : Inv c area) (hdr junk : Bytes)
    (hw : writeHeaderRaw true c.header (32 + area.length) = some hdr) (hh : hdr.length < 2 ^ 64) :
    readArchiveTail (imageOf area hdr junk) = .ok { top := .raw c.expected, dataArea := area } ∧
    tilesExactly (expectedStreams c.p c.fs c.ss c.sizes) area = true ∧
    members c.expected = c.content ∧
    readNextHeader hdr = .ok (.raw c.readBack.header) := by
  have h1 := spec_reads_header c.header c.streams c.p c.fs c.ss c.sizes c.fi rfl rfl inv.wfStreams inv.files.wf _ hdr hw
  have h2 := impl_reads_header c.header c.streams c.p c.fs c.ss c.sizes c.fi rfl rfl inv.linearStreams inv.files inv.streamsLeFiles _ hdr hw
  refine ⟨?_, ?_, rfl, h2⟩
  · unfold imageOf
    rw [readArchiveTail_assembled area hdr junk inv.areaBound hh, h1]
    rfl
  · simp [tilesExactly, expectedStreams, expectedPack, inv.packpos, inv.packsum]

theorem Inv.readBackPack_eq {c : HParts} {area : Bytes} (inv : Inv c area) : readBackPack c.p = c.p := by
  rcases inv.digests with ⟨h1, h2, h3⟩ | ⟨h1, h2, h3, _⟩
  · exact readBackPack_none _ h1 h2 h3
  · refine readBackPack_all _ h1 (by rw [h2, h3]) fun h0 => inv.fne ?_
    rw [h0] at h3; exact List.eq_nil_of_length_eq_zero h3.symm

theorem Inv.readBackSub_digests {c : HParts} {area : Bytes} (inv : Inv c area) :
    (readBackSub c.ss c.sizes).digestsdefined = c.ss.digestsdefined ∧ (readBackSub c.ss c.sizes).digests = c.ss.digests ∧
    (readBackSub c.ss c.sizes).numUnpack = c.ss.numUnpack :=
  ⟨(readBackSub_all_defined _ _ inv.dd inv.dlen).1, (readBackSub_all_defined _ _ inv.dd inv.dlen).2, rfl⟩

/-- the header object at `close()` of an append session, in terms of the object the base's header was written from -/
def appendComps {σ} (c : HParts) (cfg : WConfig σ) (ms : List WMember) (us : List Nat) : HParts :=
  { p := { c.p with numstreams := c.p.numstreams + 1, packsizes := c.p.packsizes ++ [(sessionCompress cfg ms).1.packsize],
                    crcs := if c.p.enableDigests then c.p.crcs ++ [(sessionCompress cfg ms).1.digest] else c.p.crcs,
                    digestdefined := if c.p.enableDigests then c.p.digestdefined ++ [true] else c.p.digestdefined },
    fs := c.fs.map readBackFolder ++ [sessionFolder cfg us],
    ss := { numUnpack := c.ss.numUnpack ++ [(sessionCompress cfg ms).2.length],
            unpacksizes := some (c.sizes ++ (sessionCompress cfg ms).2.map (·.1)),
            digestsdefined := c.ss.digestsdefined ++ (sessionCompress cfg ms).2.map (fun _ => true),
            digests := c.ss.digests ++ (sessionCompress cfg ms).2.map (·.2) },
    sizes := c.sizes ++ (sessionCompress cfg ms).2.map (·.1),
    fi := { files := c.fi.files.map readBackFile ++ (sessionFiles ms).files, emptyfiles := (sessionFiles ms).emptyfiles } }

theorem appendHeader_eq {σ} {c : HParts} {area : Bytes} (inv : Inv c area) (cfg : WConfig σ) (ms : List WMember) (us : List Nat)
    (hU : unpacksizesOf cfg.methodsMap ((sessionCompress cfg ms).1.chain.map (·.fed)) = some us) :
    appendHeader c.readBack.header cfg ms = some (appendComps c cfg ms us).header := by
  obtain ⟨d1, d2, d3⟩ := inv.readBackSub_digests
  have hp := inv.readBackPack_eq
  unfold appendHeader
  simp only [hU, HParts.header, HParts.streams, HParts.readBack, hp]
  -- the sizes `Header.initialize()` works with
  simp only [d1, d2, d3]
  by_cases hm : c.ss.numUnpack.any (· > 1) = true
  · -- some folder has several streams: the Size property was written and read back
    have hu : (readBackSub c.ss c.sizes).unpacksizes = some c.sizes := if_pos hm
    simp only [hu]
    rfl
  · -- no Size property: `Header.initialize()` takes the sizes from the folders
    have hu : (readBackSub c.ss c.sizes).unpacksizes = none := if_neg hm
    have hle : ∀ n ∈ c.ss.numUnpack, n ≤ 1 := fun n hn =>
      Nat.le_of_not_lt fun h1 => hm (List.any_eq_true.2 ⟨n, hn, decide_eq_true h1⟩)
    have hi := implicitSizes_tiles _ _ _ inv.linear inv.tiles hle []
    rw [List.append_nil] at hi
    simp only [hu, hi]
    rfl

theorem sessionFiles_noSlash (ms : List WMember) (hns : ∀ m ∈ ms, ∀ ch ∈ m.name, ch ≠ 0x5C) :
    ∀ e ∈ (sessionFiles ms).files, ∀ ch ∈ nameOf e, ch ≠ 0x5C :=
  List.forall_mem_map.2 hns

theorem Inv.append {σ} {c : HParts} {area : Bytes} (inv : Inv c area) (cfg : WConfig σ) (ms : List WMember) (us : List Nat)
    (wfc : WFConfig cfg) (wfm : WFMembers ms) (rs : ReadableSession cfg ms)
    (hU : unpacksizesOf cfg.methodsMap ((sessionCompress cfg ms).1.chain.map (·.fed)) = some us)
    (husb : ∀ v ∈ us, v < 2 ^ 64)
    (hab : (area ++ (sessionCompress cfg ms).1.out).length < 2 ^ 64)
    (hnf : c.fs.length + 1 < 2 ^ 64)
    (hfiles : ReadableFiles (appendComps c cfg ms us).fi)
    (hns : ∀ m ∈ ms, ∀ ch ∈ m.name, ch ≠ 0x5C) :
    Inv (appendComps c cfg ms us) (area ++ (sessionCompress cfg ms).1.out) := by
  have sp := sessionPart cfg ms us wfc wfm hU husb
  exact {
    usizes := rfl
    packpos := inv.packpos
    nstreams := by simp [appendComps, inv.nstreams]
    npack := by simp [appendComps, inv.npack]
    packsum := by simp [appendComps, inv.packsum, sp.packsize]
    areaBound := hab
    digests := by
      rcases inv.digests with ⟨h1, h2, h3⟩ | ⟨h1, h2, h3, h4⟩
      · left; simp [appendComps, h1, h2, h3]
      · right
        refine ⟨h1, by simp [appendComps, h1, h2, List.replicate_succ'], by simp [appendComps, h1, h3], ?_⟩
        simp only [appendComps, h1, if_true]
        exact List.forall_mem_append.2 ⟨h4, List.forall_mem_singleton.2 sp.digest⟩
    fne := by simp [appendComps]
    nfolders := by simp only [appendComps, List.length_append, List.length_map, List.length_singleton]; exact hnf
    linear := List.forall_mem_append.2 ⟨List.forall_mem_map.2 fun g hg => LinearFolder.readBack g (inv.linear g hg),
      List.forall_mem_singleton.2 (sp.linear rs)⟩
    nums := List.forall_mem_append.2 ⟨inv.nums, List.forall_mem_singleton.2 sp.count⟩
    tiles := Tiles.append _ _ _ _ _ _ (Tiles.readBack _ _ _ inv.tiles) (by simp) (Or.inr sp.last)
    sizesBound := List.forall_mem_append.2 ⟨inv.sizesBound, sp.sizes⟩
    dd := by
      simp only [appendComps, List.sum_append, List.sum_singleton]
      rw [← List.replicate_append_replicate, inv.dd, List.map_const']
    dlen := by simp [appendComps, inv.dlen]
    dbound := List.forall_mem_append.2 ⟨inv.dbound, sp.digests⟩
    files := hfiles
    noSlash := List.forall_mem_append.2 ⟨List.forall_mem_map.2 fun g hg => by
      rw [nameOf_readBack g (inv.noSlash g hg)]; exact inv.noSlash g hg, sessionFiles_noSlash ms hns⟩
    streamsLeFiles := by
      have h1 := inv.streamsLeFiles
      have h2 := sp.countLe
      simp only [appendComps, List.sum_append, List.sum_singleton, List.length_append, List.length_map, sessionFiles]
      omega }

theorem Inv.base {σ} (cfg : WConfig σ) (ms : List WMember) (us : List Nat)
    (wfc : WFConfig cfg) (wfm : WFMembers ms) (rs : ReadableSession cfg ms)
    (hU : unpacksizesOf cfg.methodsMap ((sessionCompress cfg ms).1.chain.map (·.fed)) = some us)
    (husb : ∀ v ∈ us, v < 2 ^ 64) (hout : (sessionCompress cfg ms).1.out.length < 2 ^ 64)
    (hns : ∀ m ∈ ms, ∀ ch ∈ m.name, ch ≠ 0x5C) :
    Inv (sessionComps cfg ms us) (sessionCompress cfg ms).1.out := by
  have sp := sessionPart cfg ms us wfc wfm hU husb
  exact {
    usizes := rfl
    packpos := rfl
    nstreams := rfl
    npack := rfl
    packsum := by simp [sessionComps, sp.packsize]
    areaBound := hout
    digests := by
      cases hed : cfg.enableDigests
      · left; simp [sessionComps, hed]
      · right
        refine ⟨by simp [sessionComps, hed], by simp [sessionComps, hed], by simp [sessionComps, hed], ?_⟩
        simp only [sessionComps, hed, if_true]
        exact List.forall_mem_singleton.2 sp.digest
    fne := by simp [sessionComps]
    nfolders := by show (1:Nat) < 2 ^ 64; decide
    linear := List.forall_mem_singleton.2 (sp.linear rs)
    nums := List.forall_mem_singleton.2 sp.count
    tiles := Tiles.append [] [] [] _ _ _ rfl (List.length_map _) (Or.inr sp.last)
    sizesBound := sp.sizes
    dd := by
      simp only [sessionComps, List.sum_singleton]
      exact List.map_const'
    dlen := by simp [sessionComps]
    dbound := sp.digests
    files := sessionFiles_readable ms wfm rs
    noSlash := sessionFiles_noSlash ms hns
    streamsLeFiles := by
      have := sp.countLe
      simp only [sessionComps, List.sum_singleton, List.length_map, sessionFiles]
      omega }

theorem Inv.content_append {σ} {c : HParts} {area : Bytes} (inv : Inv c area) (cfg : WConfig σ) (ms : List WMember) (us : List Nat)
    (wfc : WFConfig cfg) (M : List SMember) (hM : c.content = .ok M) :
    (appendComps c cfg ms us).content = .ok (M ++ folderMembers c.fs.length (ms.map memberFile) 0
      ((dataMembers ms).map (fun m => m.blocks.flatten.length)) ((dataMembers ms).map (fun m => some (crc32 m.blocks.flatten)))) := by
  obtain ⟨f1, _, _, _, _⟩ := sessionCompress_facts cfg wfc ms
  obtain ⟨hl, hs⟩ := Tiles.length_eq _ _ _ inv.tiles
  unfold HParts.content at hM ⊢
  have hfiles : (appendComps c cfg ms us).fi.files.map toSFile = c.fi.files.map toSFile ++ ms.map memberFile := by
    show (c.fi.files.map readBackFile ++ (sessionFiles ms).files).map toSFile = _
    rw [List.map_append, List.map_map, sessionFiles_toSFile]
    exact congrArg (· ++ _) (List.map_congr_left fun e he => toSFile_readBack e (inv.files.wf.named e he) (inv.noSlash e he))
  have hcr : expectedSubCrcs (appendComps c cfg ms us).ss =
      expectedSubCrcs c.ss ++ (dataMembers ms).map (fun m => some (crc32 m.blocks.flatten)) := by
    simp only [expectedSubCrcs, appendComps]
    rw [List.zip_append (by rw [inv.dd, inv.dlen]; simp), List.map_append, subCrcs_all_defined, f1, List.map_map]
    rfl
  have hsz : (appendComps c cfg ms us).sizes = c.sizes ++ (dataMembers ms).map (fun m => m.blocks.flatten.length) := by
    simp [appendComps, f1, Function.comp_def]
  have hnu : (appendComps c cfg ms us).ss.numUnpack = c.ss.numUnpack ++ [(dataMembers ms).length] := by
    simp [appendComps, f1]
  rw [hfiles, hcr, hsz, hnu]
  have hne : c.ss.numUnpack ≠ [] := List.ne_nil_of_length_pos (hl ▸ List.length_pos_iff.2 inv.fne)
  have hcount : ((ms.map memberFile).filter (fun f => !f.emptyStream)).length =
      ((dataMembers ms).map (fun m => m.blocks.flatten.length)).length := by simpa using memberFile_count ms
  have := assign_append (c.fi.files.map toSFile) (ms.map memberFile) c.ss.numUnpack (dataMembers ms).length c.sizes
    ((dataMembers ms).map (fun m => m.blocks.flatten.length)) (expectedSubCrcs c.ss)
    ((dataMembers ms).map (fun m => some (crc32 m.blocks.flatten))) M hM hne hs.symm
    (by simp [expectedSubCrcs, inv.dd, inv.dlen, hs]) (by simp) hcount (by simp)
  rw [this, hl]

/-- `assembleAppend` on a base whose first 32 bytes are `S` and whose packed streams `A` end at the write position:
    the new signature header, `A`, the new data and header, then what the base holds beyond them -/
theorem assembleAppend_at (S A T out hdr' : Bytes) (hS : S.length = 32) :
    assembleAppend (S ++ A ++ T) (32 + A.length) out hdr' =
      sigHeaderBytes (A ++ out).length hdr'.length (crc32 hdr') ++ (A ++ out) ++ hdr' ++
        (S ++ A ++ T).drop (32 + A.length + out.length + hdr'.length) := by
  have hSA : (S ++ A).length = 32 + A.length := by rw [List.length_append, hS]
  have e1 : (S ++ A ++ T).take (32 + A.length) = S ++ A := by rw [← hSA]; exact List.take_left' rfl
  have e2 : 32 + A.length - (S ++ A ++ T).length = 0 :=
    Nat.sub_eq_zero_of_le (by rw [← hSA, List.length_append (as := S ++ A)]; exact Nat.le_add_right _ _)
  have e3 : (S ++ A ++ out ++ hdr').drop 32 = A ++ out ++ hdr' := by
    rw [List.append_assoc S, List.append_assoc S, List.drop_left' hS]
  have e4 : (S ++ A ++ out ++ hdr').length = 32 + A.length + out.length + hdr'.length := by
    rw [List.length_append, List.length_append, hSA]
  have e5 : 32 + A.length + out.length - 32 = (A ++ out).length := by
    rw [List.length_append, Nat.add_assoc, Nat.add_sub_cancel_left]
  unfold assembleAppend
  simp only [e1, e2, List.replicate_zero, List.append_nil]
  rw [e3, e4, e5]
  simp only [List.append_assoc]

theorem assembleAppend_image (area hdr junk out hdr' : Bytes) :
    assembleAppend (imageOf area hdr junk) (32 + area.length) out hdr' =
      imageOf (area ++ out) hdr' ((imageOf area hdr junk).drop (32 + area.length + out.length + hdr'.length)) := by
  have h := assembleAppend_at (sigHeaderBytes area.length hdr.length (crc32 hdr)) area (hdr ++ junk) out hdr' (sig_length _ _ _)
  rw [← List.append_assoc] at h
  exact h

/-- what an append session on an archive satisfying the invariant starts from: the header object the reader returns,
    the write position behind the old packed streams, and the header object `close()` will serialise -/
theorem Inv.appendSession {σ} {c : HParts} {area : Bytes} (inv : Inv c area) (hdr junk : Bytes)
    (hw : writeHeaderRaw true c.header (32 + area.length) = some hdr) (hh : hdr.length < 2 ^ 64)
    (cfg : WConfig σ) (ms : List WMember) (us : List Nat)
    (hU : unpacksizesOf cfg.methodsMap ((sessionCompress cfg ms).1.chain.map (·.fed)) = some us) :
    headerOfImage (imageOf area hdr junk) = some c.readBack.header ∧
    appendPos c.readBack.header = 32 + area.length ∧
    appendHeader c.readBack.header cfg ms = some (appendComps c cfg ms us).header := by
  refine ⟨?_, ?_, appendHeader_eq inv cfg ms us hU⟩
  · unfold headerOfImage imageOf
    rw [locateHeader_assembled area hdr junk inv.areaBound hh]
    simp only [bind, Option.bind, (inv.reads hdr junk hw hh).2.2.2]
  · simp only [appendPos, HParts.header, HParts.streams, HParts.readBack, inv.readBackPack_eq, inv.packpos, inv.packsum]

theorem Inv.append_image {σ} {c : HParts} {area : Bytes} (inv : Inv c area) (hdr junk : Bytes)
    (hw : writeHeaderRaw true c.header (32 + area.length) = some hdr) (hh : hdr.length < 2 ^ 64)
    (cfg : WConfig σ) (ms : List WMember) (us : List Nat) (hms : ms ≠ [])
    (hU : unpacksizesOf cfg.methodsMap ((sessionCompress cfg ms).1.chain.map (·.fed)) = some us)
    (img' : Bytes) (h : appendArchive (imageOf area hdr junk) cfg ms = some img') :
    ∃ hdr' junk', writeHeaderRaw true (appendComps c cfg ms us).header
        (32 + (area ++ (sessionCompress cfg ms).1.out).length) = some hdr' ∧
      img' = imageOf (area ++ (sessionCompress cfg ms).1.out) hdr' junk' := by
  obtain ⟨hH, hpos, happ⟩ := inv.appendSession hdr junk hw hh cfg ms us hU
  have hemp : ms.isEmpty = false := List.isEmpty_eq_false_iff.2 hms
  unfold appendArchive at h
  rw [hH] at h
  simp only [bind, Option.bind, hemp, Bool.false_eq_true, if_false, happ, Option.map_some, hpos] at h
  cases hW : writeHeaderRaw true (appendComps c cfg ms us).header (32 + area.length + (sessionCompress cfg ms).1.out.length) with
  | none => simp [hW] at h
  | some hdr' =>
    simp only [hW, pure, Option.some.injEq] at h
    refine ⟨hdr', (imageOf area hdr junk).drop (32 + area.length + (sessionCompress cfg ms).1.out.length + hdr'.length),
      by rw [List.length_append, ← Nat.add_assoc]; exact hW, ?_⟩
    rw [← h]
    exact assembleAppend_image area hdr junk _ hdr'

/-! ### archives reachable by a create session and any number of append sessions -/

/-- an archive file together with the header object it was written from and the members it holds -/
structure ArchState where
  c : HParts
  area : Bytes
  hdr : Bytes
  junk : Bytes
  M : List SMember

def ArchState.image (s : ArchState) : Bytes := imageOf s.area s.hdr s.junk

structure ArchState.Good (s : ArchState) : Prop where
  inv : Inv s.c s.area
  hw : writeHeaderRaw true s.c.header (32 + s.area.length) = some s.hdr
  hh : s.hdr.length < 2 ^ 64
  content : s.c.content = .ok s.M

/-- the members a session adds, as the format describes them, when its data goes to folder `k` -/
def sessionMembers (k : Nat) (ms : List WMember) : List SMember :=
  folderMembers k (ms.map memberFile) 0 ((dataMembers ms).map (fun m => m.blocks.flatten.length))
    ((dataMembers ms).map (fun m => some (crc32 m.blocks.flatten)))

theorem sessionMembers_zero (ms : List WMember) : sessionMembers 0 ms = expectedMembers ms := by
  unfold sessionMembers expectedMembers
  exact folderMembers_zero _ _ _ _

/-! the explicit states of a history -/

def createState {σ} (cfg : WConfig σ) (ms : List WMember) (us : List Nat) (hdr : Bytes) : ArchState :=
  { c := sessionComps cfg ms us, area := (sessionCompress cfg ms).1.out, hdr := hdr, junk := [], M := sessionMembers 0 ms }

def appendState {σ} (s : ArchState) (cfg : WConfig σ) (ms : List WMember) (us : List Nat) (hdr' junk' : Bytes) : ArchState :=
  { c := appendComps s.c cfg ms us, area := s.area ++ (sessionCompress cfg ms).1.out, hdr := hdr', junk := junk',
    M := s.M ++ sessionMembers s.c.fs.length ms }

theorem createState_good {σ} (cfg : WConfig σ) (ms : List WMember) (us : List Nat) (hdr : Bytes)
    (wfc : WFConfig cfg) (wfm : WFMembers ms) (rs : ReadableSession cfg ms)
    (hU : unpacksizesOf cfg.methodsMap ((sessionCompress cfg ms).1.chain.map (·.fed)) = some us)
    (husb : ∀ v ∈ us, v < 2 ^ 64) (hout : (sessionCompress cfg ms).1.out.length < 2 ^ 64)
    (hns : ∀ m ∈ ms, ∀ ch ∈ m.name, ch ≠ 0x5C)
    (hw : writeHeaderRaw true (sessionComps cfg ms us).header (32 + (sessionCompress cfg ms).1.out.length) = some hdr)
    (hh : hdr.length < 2 ^ 64) : (createState cfg ms us hdr).Good :=
  ⟨Inv.base cfg ms us wfc wfm rs hU husb hout hns, hw, hh,
    (sessionComps_content cfg ms us wfc).trans (congrArg Except.ok (sessionMembers_zero ms).symm)⟩

theorem sessionArchive_image {σ} (cfg : WConfig σ) (ms : List WMember) (us : List Nat)
    (hU : unpacksizesOf cfg.methodsMap ((sessionCompress cfg ms).1.chain.map (·.fed)) = some us) :
    sessionArchive cfg ms =
      (writeHeaderRaw true (sessionComps cfg ms us).header (32 + (sessionCompress cfg ms).1.out.length)).map
        (fun hdr => (createState cfg ms us hdr).image) := by
  unfold sessionArchive
  rw [sessionHeader_eq cfg ms us hU]
  cases hW : writeHeaderRaw true (sessionComps cfg ms us).header (32 + (sessionCompress cfg ms).1.out.length) <;>
    simp [bind, Option.bind, hW, createState, ArchState.image, imageOf]

theorem appendState_good {σ} (s : ArchState) (good : s.Good) (cfg : WConfig σ) (ms : List WMember) (us : List Nat)
    (hdr' junk' : Bytes) (wfc : WFConfig cfg) (wfm : WFMembers ms) (rs : ReadableSession cfg ms)
    (hU : unpacksizesOf cfg.methodsMap ((sessionCompress cfg ms).1.chain.map (·.fed)) = some us)
    (husb : ∀ v ∈ us, v < 2 ^ 64)
    (hab : (s.area ++ (sessionCompress cfg ms).1.out).length < 2 ^ 64)
    (hnf : s.c.fs.length + 1 < 2 ^ 64)
    (hfiles : ReadableFiles (appendComps s.c cfg ms us).fi)
    (hns : ∀ m ∈ ms, ∀ ch ∈ m.name, ch ≠ 0x5C)
    (hw : writeHeaderRaw true (appendComps s.c cfg ms us).header (32 + (s.area ++ (sessionCompress cfg ms).1.out).length) = some hdr')
    (hh : hdr'.length < 2 ^ 64) :
    (appendState s cfg ms us hdr' junk').Good :=
  ⟨good.inv.append cfg ms us wfc wfm rs hU husb hab hnf hfiles hns, hw, hh, good.inv.content_append cfg ms us wfc s.M good.content⟩

theorem good_of_create {σ} (cfg : WConfig σ) (ms : List WMember) (us : List Nat) (img : Bytes)
    (wfc : WFConfig cfg) (wfm : WFMembers ms) (rs : ReadableSession cfg ms)
    (hU : unpacksizesOf cfg.methodsMap ((sessionCompress cfg ms).1.chain.map (·.fed)) = some us)
    (husb : ∀ v ∈ us, v < 2 ^ 64) (hout : (sessionCompress cfg ms).1.out.length < 2 ^ 64)
    (hns : ∀ m ∈ ms, ∀ ch ∈ m.name, ch ≠ 0x5C)
    (hhl : ∀ hdr, writeHeaderRaw true (sessionComps cfg ms us).header (32 + (sessionCompress cfg ms).1.out.length) = some hdr →
      hdr.length < 2 ^ 64)
    (h : sessionArchive cfg ms = some img) :
    ∃ s : ArchState, s.image = img ∧ s.Good ∧ s.M = sessionMembers 0 ms ∧ s.c.fs.length = 1 := by
  rw [sessionArchive_image cfg ms us hU] at h
  obtain ⟨hdr, hw, himg⟩ := Option.map_eq_some_iff.1 h
  exact ⟨createState cfg ms us hdr, himg, createState_good cfg ms us hdr wfc wfm rs hU husb hout hns hw (hhl hdr hw), rfl, rfl⟩

/-- an append session takes a good state to a good state that holds the old members, unchanged
    and in order, followed by the new ones in one more folder -/
theorem good_of_append {σ} (s : ArchState) (good : s.Good) (cfg : WConfig σ) (ms : List WMember) (us : List Nat) (img' : Bytes)
    (hms : ms ≠ []) (wfc : WFConfig cfg) (wfm : WFMembers ms) (rs : ReadableSession cfg ms)
    (hU : unpacksizesOf cfg.methodsMap ((sessionCompress cfg ms).1.chain.map (·.fed)) = some us)
    (husb : ∀ v ∈ us, v < 2 ^ 64)
    (hab : (s.area ++ (sessionCompress cfg ms).1.out).length < 2 ^ 64)
    (hnf : s.c.fs.length + 1 < 2 ^ 64)
    (hfiles : ReadableFiles (appendComps s.c cfg ms us).fi)
    (hns : ∀ m ∈ ms, ∀ ch ∈ m.name, ch ≠ 0x5C)
    (hhl : ∀ hdr, writeHeaderRaw true (appendComps s.c cfg ms us).header
      (32 + (s.area ++ (sessionCompress cfg ms).1.out).length) = some hdr → hdr.length < 2 ^ 64)
    (h : appendArchive s.image cfg ms = some img') :
    ∃ s' : ArchState, s'.image = img' ∧ s'.Good ∧ s'.M = s.M ++ sessionMembers s.c.fs.length ms ∧
      s'.c.fs.length = s.c.fs.length + 1 := by
  obtain ⟨hdr', junk', hw', himg⟩ := good.inv.append_image s.hdr s.junk good.hw good.hh cfg ms us hms hU img' h
  exact ⟨appendState s cfg ms us hdr' junk', himg.symm,
    appendState_good s good cfg ms us hdr' junk' wfc wfm rs hU husb hab hnf hfiles hns hw' (hhl hdr' hw'), rfl,
    by simp [appendState, appendComps]⟩

theorem ArchState.Good.reads {s : ArchState} (good : s.Good) :
    readArchiveTail s.image = .ok { top := .raw s.c.expected, dataArea := s.area } ∧
    tilesExactly (expectedStreams s.c.p s.c.fs s.c.ss s.c.sizes) s.area = true ∧
    members s.c.expected = .ok s.M ∧
    readNextHeader s.hdr = .ok (.raw s.c.readBack.header) := by
  obtain ⟨h1, h2, h3, h4⟩ := good.inv.reads s.hdr s.junk good.hw good.hh
  exact ⟨h1, h2, by rw [h3, good.content], h4⟩

end SevenZ
