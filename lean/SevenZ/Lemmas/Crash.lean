/- Images an interrupted write can leave (C14): `crashImage` step by step, the start-header gate on a given image
   (`startHeaderOk_iff`, `headerGate_sig`), and a 32-byte record torn over an older one (`torn_sig_cases`). -/
import SevenZ.Lemmas.Crc32
import SevenZ.Lemmas.Number
import SevenZ.Model.CrashSession
import SevenZ.Lemmas.SigHeader
namespace SevenZ
open SevenZ.Impl

theorem leBytes_isBytes : ∀ n k : Nat, IsBytes (leBytes n k)
  | _, 0 => fun _ h => nomatch h
  | n, k + 1 => List.forall_mem_cons.2 ⟨Nat.mod_lt n (by decide), leBytes_isBytes (n / 256) k⟩

theorem isBytes_append {a b : Bytes} (ha : IsBytes a) (hb : IsBytes b) : IsBytes (a ++ b) :=
  List.forall_mem_append.2 ⟨ha, hb⟩

theorem isBytes_take {a : Bytes} (ha : IsBytes a) (n : Nat) : IsBytes (a.take n) :=
  fun x hx => ha x (List.mem_of_mem_take hx)

theorem isBytes_drop {a : Bytes} (ha : IsBytes a) (n : Nat) : IsBytes (a.drop n) :=
  fun x hx => ha x (List.mem_of_mem_drop hx)

theorem ofLE_top_zero (c0 c1 c2 : Nat) (h0 : c0 < 256) (h1 : c1 < 256) (h2 : c2 < 256) :
    ofLE [c0, c1, c2, 0] < 2 ^ 24 := by
  simp only [ofLE]; omega

theorem leBytes_ofLE : ∀ (a : Bytes), IsBytes a → leBytes (ofLE a) a.length = a
  | [], _ => rfl
  | x :: a, h => by
    have hx : x < 256 := h x (List.mem_cons_self ..)
    rw [ofLE, List.length_cons, leBytes, Nat.add_mul_mod_self_left, Nat.mod_eq_of_lt hx,
      Nat.add_mul_div_left _ _ (by decide : 0 < 256), Nat.div_eq_of_lt hx, Nat.zero_add,
      leBytes_ofLE a fun z hz => h z (List.mem_cons_of_mem _ hz)]

theorem sigFields_isBytes (o s c : Nat) : IsBytes (sigFields o s c) :=
  isBytes_append (isBytes_append (leBytes_isBytes _ _) (leBytes_isBytes _ _)) (leBytes_isBytes _ _)

/-- the 20 bytes the placeholder carries in place of offset, size and CRC of the header -/
def phFields : Bytes := leBytes 2 8 ++ leBytes 3 8 ++ leBytes 4 4

theorem skeleton_parts : skeleton = magic ++ [0, 4] ++ leBytes 1 4 ++ phFields := by
  simp [skeleton, phFields, List.append_assoc]

theorem sig_parts (ofs size crc : Nat) :
    sigHeaderBytes ofs size crc = magic ++ [0, 4] ++ leBytes (crc32 (sigFields ofs size crc)) 4 ++ sigFields ofs size crc := by
  simp [sigHeaderBytes, sigFields, magic, magic7z, List.append_assoc]

theorem startHeaderOk_short {img : Bytes} (h : img.length < 32) : startHeaderOk img = false := by
  unfold startHeaderOk
  rw [decide_eq_false (Nat.not_le.2 h), Bool.and_false, Bool.false_and]

theorem startHeaderOk_parts (C F rest : Bytes) (hC : C.length = 4) (hF : F.length = 20) :
    startHeaderOk (magic ++ [0, 4] ++ C ++ F ++ rest) = (crc32 F == ofLE C) := by
  obtain ⟨hlen, h0, h1, h2, -⟩ := start_read C F rest hC hF
  unfold startHeaderOk
  rw [show magic = magic7z from rfl, hlen, h0, h1, h2]
  simp

theorem startHeaderOk_iff (C F rest : Bytes) (hC : C.length = 4) (hF : F.length = 20) (hb : IsBytes C) :
    startHeaderOk (magic ++ [0, 4] ++ C ++ F ++ rest) = true ↔ C = leBytes (crc32 F) 4 := by
  rw [startHeaderOk_parts C F rest hC hF, beq_iff_eq]
  constructor
  · intro h
    rw [h, ← hC, leBytes_ofLE C hb]
  · intro h; rw [h, ofLE_leBytes_lt _ 4 (crc32_lt F)]

theorem headerGate_none_of_start (img : Bytes) (h : startHeaderOk img = false) : headerGate img = none := by
  unfold headerGate; simp [h]

theorem headerGate_sig (o s c : Nat) (rest : Bytes) (ho : o < 2 ^ 64) (hs : s < 2 ^ 64) (hc : c < 2 ^ 32) :
    headerGate (sigHeaderBytes o s c ++ rest) =
      (if crc32 ((rest.drop o).take s) = c then some ((rest.drop o).take s) else none) := by
  obtain ⟨hlen, h0, h1, h2, h3, h4, h5, h6⟩ := sig_read o s c rest
  have hok : startHeaderOk (sigHeaderBytes o s c ++ rest) = true := by
    simp [startHeaderOk, hlen, h0, h1, h2, Impl.magic, magic7z, ofLE_leBytes_lt _ 4 (crc32_lt _)]
  unfold headerGate
  simp only [hok, if_true, h3, h4, h5, ← List.drop_drop, h6, ofLE_leBytes_lt o 8 (by omega), ofLE_leBytes_lt s 8 (by omega),
    ofLE_leBytes_lt c 4 (by omega)]

/-- cut at or behind two prefixes of equal length: the first prefix stays whole -/
theorem splice_ge {α} (X X0 Y Y0 : List α) {n : Nat} (k : Nat) (hX : X.length = n) (hX0 : X0.length = n) (hk : n ≤ k) :
    (X ++ Y).take k ++ (X0 ++ Y0).drop k = X ++ (Y.take (k - n) ++ Y0.drop (k - n)) := by
  rw [List.take_append, List.drop_append, List.take_of_length_le (hX ▸ hk), List.drop_of_length_le (hX0 ▸ hk), hX, hX0,
    List.nil_append, List.append_assoc]

/-- cut inside two prefixes: the second tail stays whole -/
theorem splice_le {α} (X X0 Y Y0 : List α) (k : Nat) (hX : k ≤ X.length) (hX0 : k ≤ X0.length) :
    (X ++ Y).take k ++ (X0 ++ Y0).drop k = X.take k ++ X0.drop k ++ Y0 := by
  rw [List.take_append_of_le_length hX, List.drop_append_of_le_length hX0, List.append_assoc]

/-- a 32-byte record `A ++ C ++ F` (8 + 4 + 20) torn after `k` bytes over an older one with the same first eight
    bytes: the tear falls in the shared prefix, inside the CRC field, or inside the 20 field bytes -/
theorem torn_sig_cases (A C C0 F F0 : Bytes) (hA : A.length = 8) (hC : C.length = 4) (hC0 : C0.length = 4)
    (hF : F.length = 20) (hF0 : F0.length = 20) (k : Nat) (hk : k ≤ 32) :
    (A ++ C ++ F).take k ++ (A ++ C0 ++ F0).drop k = A ++ C0 ++ F0 ∨
    (∃ j, 0 < j ∧ j < 4 ∧ (A ++ C ++ F).take k ++ (A ++ C0 ++ F0).drop k = A ++ (C.take j ++ C0.drop j) ++ F0) ∨
    (∃ j, j ≤ 20 ∧ (A ++ C ++ F).take k ++ (A ++ C0 ++ F0).drop k = A ++ C ++ (F.take j ++ F0.drop j)) := by
  have hAC : (A ++ C).length = 12 := by rw [List.length_append, hA, hC]
  have hAC0 : (A ++ C0).length = 12 := by rw [List.length_append, hA, hC0]
  by_cases h1 : k ≤ 8
  · left
    rw [List.append_assoc, List.append_assoc, splice_le _ _ _ _ k (hA ▸ h1) (hA ▸ h1), List.take_append_drop]
  · by_cases h2 : k < 12
    · have hj : 0 < k - 8 ∧ k - 8 < 4 := by omega
      refine Or.inr (Or.inl ⟨k - 8, hj.1, hj.2, ?_⟩)
      rw [List.append_assoc, List.append_assoc, splice_ge A A (C ++ F) (C0 ++ F0) k hA hA (Nat.le_of_not_le h1),
        splice_le C C0 F F0 (k - 8) (hC ▸ Nat.le_of_lt hj.2) (hC0 ▸ Nat.le_of_lt hj.2), List.append_assoc A]
    · exact Or.inr (Or.inr ⟨k - 12, by omega, splice_ge (A ++ C) (A ++ C0) F F0 k hAC hAC0 (Nat.le_of_not_lt h2)⟩)

theorem length_take_append_drop {α} (A B : List α) {n : Nat} (j : Nat) (hA : A.length = n) (hB : B.length = n) (hj : j ≤ n) :
    (A.take j ++ B.drop j).length = n := by
  rw [List.length_append, List.length_take, List.length_drop, hA, hB]; omega

theorem drop_take_append_drop {α} (A B : List α) (j i : Nat) (hj : j ≤ i) (hA : j ≤ A.length) :
    (A.take j ++ B.drop j).drop i = B.drop i := by
  rw [List.drop_append, List.drop_of_length_le (by rw [List.length_take]; omega), List.nil_append, List.drop_drop,
    List.length_take, Nat.min_eq_left hA, Nat.add_sub_cancel' hj]

theorem applyWrite_zero (img d : Bytes) : applyWrite img ⟨0, d⟩ = d ++ img.drop d.length := by
  simp [applyWrite]

theorem applyWrite_end (img d : Bytes) : applyWrite img ⟨img.length, d⟩ = img ++ d := by
  simp [applyWrite]

theorem applyWrite_over (P Q t : Bytes) :
    applyWrite (P ++ Q) ⟨P.length, t⟩ = P ++ (t ++ Q.drop t.length) := by
  unfold applyWrite
  have h0 : P.length - (P ++ Q).length = 0 := by simp
  simp only [h0, List.replicate_zero, List.append_nil]
  rw [List.take_left' rfl, ← List.drop_drop, List.drop_left' rfl, List.append_assoc]

theorem crashImage_nil (base : Bytes) (n k : Nat) : crashImage base [] n k = base := by
  simp [crashImage, applyAll]

theorem crashImage_cons_zero (base : Bytes) (o : Nat) (d : Bytes) (ops : List WriteOp) (k : Nat) :
    crashImage base (⟨o, d⟩ :: ops) 0 k = applyWrite base ⟨o, d.take k⟩ := by
  simp [crashImage, applyAll]

theorem crashImage_cons_succ (base : Bytes) (w : WriteOp) (ops : List WriteOp) (n k : Nat) :
    crashImage base (w :: ops) (n + 1) k = crashImage (applyWrite base w) ops n k := by
  simp [crashImage, applyAll]

theorem applyAll_cons (base : Bytes) (w : WriteOp) (ops : List WriteOp) :
    applyAll base (w :: ops) = applyAll (applyWrite base w) ops := rfl

theorem le_applyWrite_length (img : Bytes) (w : WriteOp) : img.length ≤ (applyWrite img w).length := by
  simp only [applyWrite, List.length_append, List.length_take, List.length_drop, List.length_replicate]; omega

theorem le_crashImage_length (ops : List WriteOp) : ∀ (base : Bytes) (n k : Nat),
    base.length ≤ (crashImage base ops n k).length := by
  induction ops with
  | nil => intro base n k; rw [crashImage_nil]; exact Nat.le_refl _
  | cons w ops ih =>
    intro base n k
    cases n with
    | zero => rw [crashImage_cons_zero]; exact le_applyWrite_length _ _
    | succ n => exact Nat.le_trans (le_applyWrite_length _ _) (ih _ n k)

end SevenZ
