/-
The two header readers (`Impl.read*` in `P`, `Spec.s*` in `SP`) live in the same monad up to the error type.
This file has what every proof about either of them uses: inversion of a successful run (`Prs.bind_inv` ..), a
postcondition calculus for one reader (`Post`), and a refinement relation between two (`Refines`) with one rule per
monad operation, so that a theorem about a production is the composition of the theorems about its parts.
-/
import SevenZ.Model.Header
import SevenZ.Spec.Format
import SevenZ.Lemmas.Parses
namespace SevenZ
open SevenZ.Impl SevenZ.Spec

namespace Prs
variable {ε α β : Type}

theorem bind_inv {x : Prs ε α} {f : α → Prs ε β} {s : Bytes} {r : β × Bytes}
    (h : (x >>= f) s = .ok r) : ∃ a s', x s = .ok (a, s') ∧ f a s' = .ok r := by
  simp only [bind, StateT.bind, Except.bind] at h
  cases hx : x s with
  | error e => simp [hx] at h
  | ok v => exact ⟨v.1, v.2, rfl, by simpa only [hx] using h⟩

theorem pure_inv {a : α} {s : Bytes} {r : α × Bytes} (h : (pure a : Prs ε α) s = .ok r) : r = (a, s) :=
  (Except.ok.inj h).symm

theorem bind_run {x : Prs ε α} {f : α → Prs ε β} {s s' : Bytes} {a : α} (h : x s = .ok (a, s')) :
    (x >>= f) s = f a s' := by
  simp only [bind, StateT.bind, Except.bind, h]

theorem sfail_inv {m : String} {s : Bytes} {r : α × Bytes} (h : (Spec.sfail m : SP α) s = .ok r) : False := by
  simp [Spec.sfail] at h

theorem guard_inv {c : Prop} [Decidable c] {m : String} {p : SP α} {s : Bytes} {x : α × Bytes}
    (h : (if c then Spec.sfail m else p) s = .ok x) : ¬c ∧ p s = .ok x := by
  split at h
  · exact (sfail_inv h).elim
  · exact ⟨‹_›, h⟩

end Prs

/-- every successful run of `p` satisfies `φ initial result rest` -/
def Post {ε α} (p : Prs ε α) (φ : Bytes → α → Bytes → Prop) : Prop :=
  ∀ ⦃s a r⦄, p s = .ok (a, r) → φ s a r

namespace Post
variable {ε α β : Type} {p q : Prs ε α} {φ ψ : Bytes → α → Bytes → Prop} {c : Prop} [Decidable c]

theorem pure {a : α} (h : ∀ s, φ s a s) : Post (pure a : Prs ε α) φ := by
  intro s b r hr
  cases Prs.pure_inv hr
  exact h s

/-- the rest of the block is verified against what the first step guarantees -/
theorem bind {x : Prs ε α} {f : α → Prs ε β} {φ₁ : Bytes → α → Bytes → Prop} {φ : Bytes → β → Bytes → Prop}
    (hx : Post x φ₁) (hf : ∀ a, Post (f a) (fun s₁ b r => ∀ s, φ₁ s a s₁ → φ s b r)) : Post (x >>= f) φ := by
  intro s b r h
  obtain ⟨a, s₁, h₁, h₂⟩ := Prs.bind_inv h
  exact hf a h₂ s (hx h₁)

theorem trivial : Post p (fun _ _ _ => True) := fun _ _ _ _ => True.intro

theorem mono (h : Post p φ) (hi : ∀ s a r, φ s a r → ψ s a r) : Post p ψ := fun s a r hr => hi s a r (h hr)

theorem ite (hp : c → Post p φ) (hq : ¬c → Post q φ) : Post (if c then p else q) φ := by
  split
  · exact hp ‹_›
  · exact hq ‹_›

theorem fail {e : Err} {φ : Bytes → α → Bytes → Prop} : Post (Impl.fail e : P α) φ := by
  intro s a r h; simp [Impl.fail] at h

theorem sfail {m : String} {φ : Bytes → α → Bytes → Prop} : Post (Spec.sfail m : SP α) φ :=
  fun _ _ _ h => (Prs.sfail_inv h).elim

theorem guard {e : Err} {p : P α} {φ : Bytes → α → Bytes → Prop} (hp : ¬c → Post p φ) :
    Post (if c then Impl.fail e else p) φ :=
  .ite (fun _ => .fail) hp

end Post

/-- the commonest postcondition: at least `k` bytes are consumed (`uses 0`: none are given back) -/
abbrev uses {α} (k : Nat) : Bytes → α → Bytes → Prop := fun s _ r => r.length + k ≤ s.length

namespace Post
variable {ε α β : Type}

/-- where nothing but consumption is claimed: what the first step consumes need not be consumed by the rest -/
theorem seq {x : Prs ε α} {f : α → Prs ε β} {k n : Nat} (hx : Post x (uses k)) (hf : ∀ a, Post (f a) (uses (n - k))) :
    Post (x >>= f) (uses n) :=
  .bind hx fun a => (hf a).mono fun s₁ _ r h s hs => by simp only [uses] at *; omega

theorem ret {a : α} : Post (Pure.pure a : Prs ε α) (uses 0) := Post.pure fun _ => Nat.le_refl _

/-- a loop whose body consumes at least `k` bytes per round makes at most `1/k` rounds per byte: `rep` is
    `Impl.repeatP · p` or `Spec.sRepeat · p` -/
theorem replicateM {p : Prs ε α} {rep : Nat → Prs ε (List α)} (h0 : rep 0 = Pure.pure [])
    (hs : ∀ n, rep (n + 1) = p >>= fun a => rep n >>= fun as => Pure.pure (a :: as)) {k : Nat} (hp : Post p (uses k)) :
    ∀ n, Post (rep n) (fun s as r => as.length = n ∧ r.length + k * n ≤ s.length)
  | 0 => h0 ▸ Post.pure fun s => ⟨rfl, Nat.le_refl _⟩
  | n + 1 => by
    rw [hs]
    refine .bind hp fun a => .bind (replicateM h0 hs hp n) fun as => Post.pure ?_
    intro s₂ s₁ ⟨h₁, h₂⟩ s h
    simp only [uses, List.length_cons, Nat.mul_succ, h₁, true_and] at h ⊢; omega

end Post

/-- py7zr's outcome `res` is acceptable where the specification reader returned `a` and left `r`: the same rest, a
    result related by `R`, and `Q` of the rest; with `lax`, an exception is acceptable too -/
def Accepts {ε α β} (lax : Prop) (Q : Bytes → Prop) (R : α → β → Prop) (res : Except ε (β × Bytes)) (a : α) (r : Bytes) : Prop :=
  (∃ b, res = .ok (b, r) ∧ R a b ∧ Q r) ∨ (lax ∧ ∃ e, res = .error e)

theorem Accepts.ok {ε α β} {lax : Prop} {Q : Bytes → Prop} {R : α → β → Prop} {res : Except ε (β × Bytes)} {a : α} {b : β} {r : Bytes}
    (g : res = .ok (b, r)) (hr : R a b) (hq : Q r) : Accepts lax Q R res a r :=
  .inl ⟨b, g, hr, hq⟩

theorem Accepts.raised {ε α β} {lax : Prop} {Q : Bytes → Prop} {R : α → β → Prop} {res : Except ε (β × Bytes)} {a : α} {r : Bytes}
    {e : ε} (hl : lax) (g : res = .error e) : Accepts lax Q R res a r :=
  .inr ⟨hl, e, g⟩

/-- on input satisfying `Q`, wherever `sp` succeeds `ip` succeeds too, stops at the same place with a result related by
    `R`, and what is left satisfies `Q` again; with `lax`, `ip` may raise instead (but never succeeds otherwise) -/
def Refines {ε₁ ε₂ α β} (lax : Prop) (Q : Bytes → Prop) (R : α → β → Prop) (sp : Prs ε₁ α) (ip : Prs ε₂ β) : Prop :=
  ∀ ⦃s a r⦄, Q s → sp s = .ok (a, r) → Accepts lax Q R (ip s) a r

theorem Accepts.bind {ε α β α' β' : Type} {lax : Prop} {Q : Bytes → Prop} {R : α → β → Prop} {R' : α' → β' → Prop}
    {y : Prs ε β} {g : β → Prs ε β'} {s s₁ r : Bytes} {a : α} {a' : α'} (h₁ : Accepts lax Q R (y s) a s₁)
    (hf : ∀ b, R a b → Q s₁ → Accepts lax Q R' (g b s₁) a' r) : Accepts lax Q R' ((y >>= g) s) a' r := by
  rcases h₁ with ⟨b, g₁, hr, hq₁⟩ | ⟨hl, e, g₁⟩
  · rw [Prs.bind_run g₁]
    exact hf b hr hq₁
  · exact .raised hl (e := e) (by simp only [Bind.bind, StateT.bind, Except.bind, g₁])

/-- without `lax`, acceptance is success -/
theorem Accepts.strict {ε α β} {Q : Bytes → Prop} {R : α → β → Prop} {res : Except ε (β × Bytes)} {a : α} {r : Bytes}
    (h : Accepts False Q R res a r) : ∃ b, res = .ok (b, r) ∧ R a b ∧ Q r :=
  h.resolve_right fun h => h.1

/-- with `lax`: a related result at the same place, or an exception -/
theorem Accepts.safe {ε α β} {Q : Bytes → Prop} {R : α → β → Prop} {res : Except ε (β × Bytes)} {a : α} {r : Bytes}
    (h : Accepts True Q R res a r) : (∃ b, res = .ok (b, r) ∧ R a b) ∨ ∃ e, res = .error e :=
  h.elim (fun ⟨b, g, hr, _⟩ => .inl ⟨b, g, hr⟩) fun ⟨_, e, g⟩ => .inr ⟨e, g⟩

theorem ite_bind {m : Type → Type} [Monad m] {α β} (c : Prop) [Decidable c] (a b : m α) (f : α → m β) :
    (if c then a else b) >>= f = if c then a >>= f else b >>= f := by
  split <;> rfl

namespace Refines
variable {ε₁ ε₂ α β α' β' : Type} {lax : Prop} {Q : Bytes → Prop} {R : α → β → Prop} {R' : α' → β' → Prop}
  {sp sp₁ sp₂ x : Prs ε₁ α} {ip ip₁ ip₂ y : Prs ε₂ β} {f : α → Prs ε₁ α'} {g : β → Prs ε₂ β'}
  {c d : Prop} [Decidable c] [Decidable d]

/-- the strict case, as the theorems about single productions state it -/
theorem run (h : Refines False Q R sp ip) {s : Bytes} {a : α} {r : Bytes} (hq : Q s) (hs : sp s = .ok (a, r)) :
    ∃ b, ip s = .ok (b, r) ∧ R a b ∧ Q r :=
  (h hq hs).strict

theorem pure {a : α} {b : β} (h : R a b) : Refines lax Q R (Pure.pure a : Prs ε₁ α) (Pure.pure b : Prs ε₂ β) := by
  intro s a' r hq hr
  cases Prs.pure_inv hr
  exact .ok (b := b) rfl h hq

/-- one step of py7zr's run, at a given run of the specification reader's step `x` (used where a theorem assumes
    something of the final result, so that the whole run has to be taken apart first) -/
theorem step {s s₁ r : Bytes} {a : α} {a' : α'} (hx : Refines lax Q R x y) (hq : Q s) (h₁ : x s = .ok (a, s₁))
    (hf : ∀ b, R a b → Q s₁ → Accepts lax Q R' (g b s₁) a' r) : Accepts lax Q R' ((y >>= g) s) a' r :=
  (hx hq h₁).bind hf

theorem bind (hx : Refines lax Q R x y) (hf : ∀ a b, R a b → Refines lax Q R' (f a) (g b)) :
    Refines lax Q R' (x >>= f) (y >>= g) := by
  intro s a' r hq h
  obtain ⟨a, s₁, h₁, h₂⟩ := Prs.bind_inv h
  exact step hx hq h₁ fun b hr hq₁ => hf a b hr hq₁ h₂

/-- `bind` where the implementation's value is a function of the specification's -/
theorem bind_eq {φ : α → β} (hx : Refines lax Q (fun a b => b = φ a) x y) (hf : ∀ a, Refines lax Q R' (f a) (g (φ a))) :
    Refines lax Q R' (x >>= f) (y >>= g) :=
  hx.bind fun a _ h => h ▸ hf a

/-- the same with a fact `ψ` about the specification's value -/
theorem bind_eq' {φ : α → β} {ψ : α → Prop} (hx : Refines lax Q (fun a b => b = φ a ∧ ψ a) x y)
    (hf : ∀ a, ψ a → Refines lax Q R' (f a) (g (φ a))) : Refines lax Q R' (x >>= f) (y >>= g) :=
  hx.bind fun a _ h => h.1 ▸ hf a h.2

/-- a step of the specification reader that the implementation does not have -/
theorem map_left {R' : α' → β → Prop} {f : α → α'} (h : Refines lax Q R sp ip) (hf : ∀ a b, R a b → R' (f a) b) :
    Refines lax Q R' (sp >>= fun a => Pure.pure (f a)) ip := by
  have := h.bind (R' := R') (f := fun a => Pure.pure (f a)) (g := Pure.pure) fun a b hab => .pure (hf a b hab)
  rwa [bind_pure] at this

theorem mono {R' : α → β → Prop} (h : Refines lax Q R sp ip) (hi : ∀ a b, R a b → R' a b) : Refines lax Q R' sp ip := by
  intro s a r hq hs
  rcases h hq hs with ⟨b, g, hr, hq'⟩ | h
  · exact .ok (b := b) g (hi a b hr) hq'
  · exact .inr h

/-- a step that is a refinement only because of what the specification reader checks afterwards (a guard of py7zr's
    that the format makes redundant later in the production): the step is proved where it happens, knowing that the
    rest of the specification succeeds; the rest is composed as usual -/
theorem bind_future (hf : ∀ a b, R a b → Refines lax Q R' (f a) (g b))
    (hx : ∀ ⦃s a s₁ a' r⦄, Q s → x s = .ok (a, s₁) → f a s₁ = .ok (a', r) → ∃ b, y s = .ok (b, s₁) ∧ R a b ∧ Q s₁) :
    Refines lax Q R' (x >>= f) (y >>= g) := by
  intro s a' r hq h
  obtain ⟨a, s₁, h₁, h₂⟩ := Prs.bind_inv h
  obtain ⟨b, g₁, hr, hq₁⟩ := hx hq h₁ h₂
  rw [Prs.bind_run g₁]
  exact hf a b hr hq₁ h₂

/-- entry by entry over the same list `ds`; `χ` is what an entry read says of the `d` it was read for -/
theorem mapM {δ : Type} {φ : α → β} {χ : α → δ} {f : δ → Prs ε₁ α} {g : δ → Prs ε₂ β}
    (h : ∀ d, Refines lax Q (fun a b => b = φ a ∧ d = χ a) (f d) (g d)) :
    ∀ ds : List δ, Refines lax Q (fun as bs => bs = as.map φ ∧ ds = as.map χ) (ds.mapM f) (ds.mapM g)
  | [] => .pure ⟨rfl, rfl⟩
  | d :: ds => by
    simp only [List.mapM_cons]
    exact .bind_eq' (h d) fun a ha => .bind_eq' (mapM h ds) fun as has => .pure ⟨rfl, by rw [List.map_cons, ← ha, ← has]⟩

theorem sfail {m : String} : Refines lax Q R (Spec.sfail m : SP α) ip :=
  fun _ _ _ _ h => (Prs.sfail_inv h).elim

theorem sfail_bind {R : α' → β → Prop} {m : String} {f : α → SP α'} : Refines lax Q R (Spec.sfail m >>= f) ip := by
  intro s a r _ h
  obtain ⟨_, _, h₁, _⟩ := Prs.bind_inv h
  exact (Prs.sfail_inv h₁).elim

theorem fail {e : Err} : Refines True Q R sp (Impl.fail e : P β) :=
  fun _ _ _ _ _ => .raised True.intro rfl

theorem ite (hc : c ↔ d) (ht : c → Refines lax Q R sp₁ ip₁) (he : ¬c → Refines lax Q R sp₂ ip₂) :
    Refines lax Q R (if c then sp₁ else sp₂) (if d then ip₁ else ip₂) := by
  by_cases h : c
  · rw [if_pos h, if_pos (hc.mp h)]; exact ht h
  · rw [if_neg h, if_neg (mt hc.mpr h)]; exact he h

theorem ite_left (ht : c → Refines lax Q R sp₁ ip) (he : ¬c → Refines lax Q R sp₂ ip) :
    Refines lax Q R (if c then sp₁ else sp₂) ip := by
  split
  · exact ht ‹_›
  · exact he ‹_›

theorem ite_right (ht : c → Refines lax Q R sp ip₁) (he : ¬c → Refines lax Q R sp ip₂) :
    Refines lax Q R sp (if c then ip₁ else ip₂) := by
  split
  · exact ht ‹_›
  · exact he ‹_›

theorem guard_left {m : String} {sp : SP α} (h : ¬c → Refines lax Q R sp ip) :
    Refines lax Q R (if c then Spec.sfail m else sp) ip :=
  ite_left (fun _ => .sfail) h

theorem guard {m : String} {e : Err} {sp : SP α} {ip : P β} (hc : c ↔ d) (h : ¬c → Refines lax Q R sp ip) :
    Refines lax Q R (if c then Spec.sfail m else sp) (if d then Impl.fail e else ip) :=
  ite hc (fun _ => .sfail) h

end Refines

/-- what `Refines` may assume of the input: bytes, and only what every tail of the input inherits -/
structure TailClosed (Q : Bytes → Prop) : Prop where
  bytes : ∀ {s}, Q s → IsBytes s
  suffix : ∀ {s r}, Q s → r <:+ s → Q r

theorem TailClosed.isBytes : TailClosed IsBytes :=
  ⟨id, fun h hs x hx => h x (hs.subset hx)⟩

theorem TailClosed.le {Q : Bytes → Prop} (hQ : TailClosed Q) (n : Nat) : TailClosed (fun s => Q s ∧ s.length ≤ n) :=
  ⟨fun h => hQ.bytes h.1, fun h hs => ⟨hQ.suffix h.1 hs, Nat.le_trans hs.length_le h.2⟩⟩

theorem TailClosed.lt {Q : Bytes → Prop} (hQ : TailClosed Q) (n : Nat) : TailClosed (fun s => Q s ∧ s.length < n) :=
  ⟨fun h => hQ.bytes h.1, fun h hs => ⟨hQ.suffix h.1 hs, Nat.lt_of_le_of_lt hs.length_le h.2⟩⟩

end SevenZ
