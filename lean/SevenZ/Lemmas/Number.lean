/- NUMBER: `write_uint64` emits a first byte with `L` leading ones followed by the `L` low bytes
   (`writeNumber_shape`); the decoder written from the format description reads that shape back, and `read_uint64`
   agrees with that decoder wherever it accepts, so it reads the shape back too. -/
import SevenZ.Model.Number
namespace SevenZ
open Impl

theorem leBytes_length (n k : Nat) : (leBytes n k).length = k := by
  induction k generalizing n with
  | zero => rfl
  | succ k ih => simp [leBytes, ih]

theorem ofLE_leBytes (n k : Nat) : ofLE (leBytes n k) = n % 256 ^ k := by
  induction k generalizing n with
  | zero => simp [leBytes, ofLE, Nat.mod_one]
  | succ k ih =>
    simp only [leBytes, ofLE, ih]
    rw [Nat.pow_succ, Nat.mul_comm (256 ^ k) 256, Nat.mod_mul]

theorem ofLE_leBytes_lt (v k : Nat) (h : v < 256 ^ k) : ofLE (leBytes v k) = v := by
  rw [ofLE_leBytes, Nat.mod_eq_of_lt h]

theorem leBytes_take (n k j : Nat) (h : j ≤ k) : (leBytes n k).take j = leBytes n j := by
  induction j generalizing n k with
  | zero => rfl
  | succ j ih =>
    obtain ⟨k, rfl⟩ : ∃ k', k = k' + 1 := ⟨k - 1, by omega⟩
    simp only [leBytes, List.take_succ_cons]; rw [ih]; omega

theorem leBytes_getLastD (n k d : Nat) : (leBytes n (k+1)).getLastD d = (n / 256 ^ k) % 256 := by
  induction k generalizing n d with
  | zero => simp [leBytes]
  | succ k ih =>
    rw [leBytes, List.getLastD_cons, ih, Nat.pow_succ, Nat.div_div_eq_div_mul, Nat.mul_comm]

/-- `byteLen v` is the number of base-256 digits of `v` -/
theorem byteLenF_spec : ∀ (f v : Nat), v ≤ f → 0 < v →
    ∃ k, byteLenF f v = k + 1 ∧ 256 ^ k ≤ v ∧ v < 256 ^ (k + 1)
  | 0, v, hf, h0 => by omega
  | f + 1, v, hf, h0 => by
    unfold byteLenF
    split
    · exact ⟨0, rfl, h0, by omega⟩
    · rename_i h256
      -- one digit less for `v / 256`
      obtain ⟨k, hk, hlo, hhi⟩ := byteLenF_spec f (v / 256)
        (by omega)
        (Nat.div_pos (Nat.le_of_not_lt h256) (by decide))
      refine ⟨k + 1, by rw [hk, Nat.add_comm], ?_, ?_⟩
      · rw [Nat.pow_succ]; exact (Nat.le_div_iff_mul_le (by decide)).1 hlo
      · rw [Nat.pow_succ]; exact (Nat.div_lt_iff_lt_mul (by decide)).1 hhi

/-- the first byte of an encoding: `n` leading ones, and the value bits below the terminating zero -/
def highBits (b : Nat) : Nat := if Spec.leadingOnes b ≥ 7 then 0 else b % 2 ^ (7 - Spec.leadingOnes b)

/-- the first byte of the 2..7-byte classes whose top value bits fit beside the prefix: `k` leading ones over the
    high bits `hb` of the value (by evaluation over the 126 cases) -/
theorem firstByte_partial : ∀ k, k < 7 → ∀ hb, hb < 2 <<< (8 - (k+1) - 1) → 1 ≤ k →
    (hb ||| prefixMask k) < 256 ∧ Spec.leadingOnes (hb ||| prefixMask k) = k ∧ highBits (hb ||| prefixMask k) = hb := by
  decide +kernel

/-- the first byte of the classes whose value fills its `L` low bytes: `L` leading ones and no value bits (7 cases) -/
theorem firstByte_full : ∀ L, L < 8 → 1 ≤ L →
    (0x80 ||| prefixMask L) < 256 ∧ Spec.leadingOnes (0x80 ||| prefixMask L) = L ∧ highBits (0x80 ||| prefixMask L) = 0 := by
  decide +kernel

/-- Shape of `write_uint64`'s output, all nine length classes at once: a first byte with `L` leading ones
    whose value bits are the part of `v` above the `L` low bytes, then those low bytes. -/
theorem writeNumber_shape (v : Nat) (hv : v < 2 ^ 64) :
    ∃ first, first < 256 ∧ writeNumber v = first :: leBytes v (Spec.leadingOnes first) ∧
      highBits first = v / 256 ^ Spec.leadingOnes first := by
  unfold writeNumber
  split
  · rename_i h80
    have hl : Spec.leadingOnes v = 0 := by simp [Spec.leadingOnes, h80]
    exact ⟨v, by omega, by simp [hl, leBytes], by simp [highBits, hl]; omega⟩
  split
  · refine ⟨0xFF, by decide, rfl, ?_⟩
    show 0 = v / 256 ^ 8
    rw [Nat.div_eq_of_lt]; exact hv
  rename_i h80 hbig
  obtain ⟨k, hk, hlo, hhi⟩ := byteLenF_spec v v (Nat.le_refl _) (Nat.lt_of_lt_of_le (by decide) (Nat.le_of_not_lt h80))
  change byteLen v = k + 1 at hk
  have hk6 : k ≤ 6 := by
    have : (256:Nat) ^ k < 256 ^ 7 := Nat.lt_of_le_of_lt hlo (by omega)
    exact Nat.le_of_lt_succ ((Nat.pow_lt_pow_iff_right (by decide)).mp this)
  have hhb : (v / 256 ^ k) % 256 = v / 256 ^ k :=
    Nat.mod_eq_of_lt ((Nat.div_lt_iff_lt_mul (Nat.pow_pos (by decide))).mpr (by rw [Nat.mul_comm, ← Nat.pow_succ]; exact hhi))
  -- `v` has k+1 digits; the top one, `v / 256^k`, rides in the first byte beside a prefix of k ones if it fits there (k low bytes
  -- follow), otherwise the first byte is a prefix of k+1 ones and all k+1 digits follow
  simp only [hk, leBytes_getLastD, hhb, Nat.add_sub_cancel]
  split
  · rename_i hlt
    have hk1 : 1 ≤ k := by
      cases k with
      | zero => simp at hlt hlo hhb; omega   -- one digit, at least 0x80: it does not fit below the 0-ones prefix
      | succ k => omega
    obtain ⟨hb, hl, hh⟩ := firstByte_partial k (Nat.lt_succ_of_le hk6) _ hlt hk1
    exact ⟨_, hb, by rw [hl, leBytes_take _ _ _ (Nat.le_succ k)], by rw [hl, hh]⟩
  · obtain ⟨hb, hl, hh⟩ := firstByte_full (k+1) (Nat.succ_lt_succ (Nat.lt_succ_of_le hk6)) (Nat.succ_pos k)
    exact ⟨_, hb, by rw [hl], by rw [hl, hh, Nat.div_eq_of_lt hhi]⟩

theorem leadingOnes_le (b : Nat) : Spec.leadingOnes b ≤ 8 := by
  unfold Spec.leadingOnes; grind   -- a cascade of eight tests that returns 0 … 8

theorem number_spec_roundtrip (v : Nat) (hv : v < 2 ^ 64) (tail : Bytes) :
    Spec.decodeNumber (writeNumber v ++ tail) = some (v, tail) := by
  obtain ⟨first, _, hw, hh⟩ := writeNumber_shape v hv
  have hlen := leBytes_length v (Spec.leadingOnes first)
  rw [hw, List.cons_append]
  simp only [Spec.decodeNumber, List.length_append, hlen, Nat.not_lt.mpr (Nat.le_add_right _ _), if_false,
    List.take_left' hlen, List.drop_left' hlen, ofLE_leBytes]
  change some (_ + highBits first * _, tail) = _
  rw [hh, Nat.add_comm, Nat.div_add_mod']

theorem number_len (v : Nat) (hv : v < 2 ^ 64) : (writeNumber v).length ≤ 9 := by
  obtain ⟨first, _, hw, _⟩ := writeNumber_shape v hv
  rw [hw, List.length_cons, leBytes_length]
  have := leadingOnes_le first; omega

/-- `read_uint64`'s table scan finds the leading ones and masks out the value bits, by evaluation over the bytes -/
theorem scan_spec : ∀ b, b < 256 → b ≠ 255 →
    scanBlen b = (Spec.leadingOnes b, 0x80 >>> Spec.leadingOnes b) ∧
    b &&& ((0x80 >>> Spec.leadingOnes b) - 1) = highBits b := by
  decide +kernel

theorem number_reads_spec (b : Nat) (rest : Bytes) (hb : b < 256)
    (hlen : Spec.leadingOnes b ≤ rest.length) :
    readNumber (b :: rest) = Spec.decodeNumber (b :: rest) := by
  by_cases h255 : b = 255
  · subst h255
    have : Spec.leadingOnes 255 = 8 := by decide
    rw [this] at hlen
    simp [readNumber, Spec.decodeNumber, this, show ¬ rest.length < 8 by omega]
  · obtain ⟨hs, ha⟩ := scan_spec b hb h255
    simp only [readNumber, h255, if_false, hs, Spec.decodeNumber, show ¬ rest.length < Spec.leadingOnes b by omega, ha]
    unfold highBits
    by_cases h0 : Spec.leadingOnes b = 0
    · simp [h0, ofLE]
    · simp only [h0, if_false, Nat.shiftLeft_eq]
      rw [Nat.mul_comm (Spec.leadingOnes b) 8, Nat.pow_mul]

theorem number_roundtrip (v : Nat) (hv : v < 2 ^ 64) (tail : Bytes) :
    readNumber (writeNumber v ++ tail) = some (v, tail) := by
  rw [← number_spec_roundtrip v hv tail]
  obtain ⟨first, hb, hw, _⟩ := writeNumber_shape v hv
  rw [hw, List.cons_append]
  exact number_reads_spec first _ hb (by simp [leBytes_length])

end SevenZ
