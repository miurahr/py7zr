/-
A whole create session.  The archive file around a header (`sig ++ area ++ hdr ++ junk`, as both archive readers and
py7zr's `locateHeader` see it); the header object of a session (`HParts`, `sessionComps`) and what a session adds to
one (`SessionPart`); `session_archive_conforms`: the file the session model assembles is accepted by the strict archive
reader and decodes to exactly the members written; and from the assignment back to the bytes (`slices_recover`).
-/
import SevenZ.Lemmas.SpecHeader
import SevenZ.Lemmas.Compressor
import SevenZ.Model.WriteSession
import SevenZ.Spec.Archive
import SevenZ.Model.AppendSession
import SevenZ.Lemmas.SpecAssign
import SevenZ.Lemmas.SigHeader
namespace SevenZ
open Impl Spec

/-- the strict archive reader on `signature header ++ data area ++ header ++ junk` (an archive that
    was appended to may carry bytes behind its header): all start-header checks pass and the header
    database is read from exactly the header bytes -/
theorem readArchiveTail_assembled (area hdr junk : Bytes) (ha : area.length < 2 ^ 64) (hh : hdr.length < 2 ^ 64) :
    readArchiveTail (sigHeaderBytes area.length hdr.length (crc32 hdr) ++ area ++ hdr ++ junk) =
      (match readTop hdr with
       | .error e => .error e
       | .ok top => .ok { top := top, dataArea := area }) := by
  rw [List.append_assoc, List.append_assoc]
  obtain ⟨hlen, h0, h1, h2, -, -, -, h6⟩ := sig_read area.length hdr.length (crc32 hdr) (area ++ (hdr ++ junk))
  obtain ⟨f1, f2, f3⟩ := sigFields_read area.length hdr.length (crc32 hdr)
  unfold readArchiveTail
  simp only [hlen, h0, h1, h2, f1, f2, f3, h6, Spec.magic, magic7z, ofLE_leBytes_lt _ 4 (crc32_lt _),
    ofLE_leBytes_lt area.length 8 (by omega), ofLE_leBytes_lt hdr.length 8 (by omega), List.length_append,
    ← List.drop_drop, List.drop_left' rfl, List.take_left' rfl]
  -- what is left: the reader's two range tests (`e1`, `e2`), then `match readTop hdr` on both sides
  have e1 : ¬ (32 + (area.length + (hdr.length + junk.length)) < 32) := by omega
  have e2 : ¬ (32 + area.length + hdr.length > 32 + (area.length + (hdr.length + junk.length))) := by omega
  simp [e1, e2]
  cases readTop hdr <;> rfl

/-- the same for the archive a create session leaves: nothing behind the header -/
theorem readArchive_assembled (area hdr : Bytes) (ha : area.length < 2 ^ 64) (hh : hdr.length < 2 ^ 64) :
    readArchive (sigHeaderBytes area.length hdr.length (crc32 hdr) ++ area ++ hdr) =
      (match readTop hdr with
       | .error e => .error e
       | .ok top => .ok { top := top, dataArea := area }) := by
  rw [List.append_assoc]
  obtain ⟨hlen, h0, h1, h2, -, -, -, h6⟩ := sig_read area.length hdr.length (crc32 hdr) (area ++ hdr)
  obtain ⟨f1, f2, f3⟩ := sigFields_read area.length hdr.length (crc32 hdr)
  unfold readArchive
  simp only [hlen, h0, h1, h2, f1, f2, f3, h6, Spec.magic, magic7z, ofLE_leBytes_lt _ 4 (crc32_lt _),
    ofLE_leBytes_lt area.length 8 (by omega), ofLE_leBytes_lt hdr.length 8 (by omega), List.length_append,
    ← List.drop_drop, List.drop_left' rfl, List.take_left' rfl]
  have e1 : ¬ (32 + (area.length + hdr.length) < 32) := by omega
  have e2 : 32 + area.length + hdr.length = 32 + (area.length + hdr.length) := by omega
  simp [e1, e2]
  cases readTop hdr <;> rfl

theorem locateHeader_assembled (area hdr junk : Bytes) (ha : area.length < 2 ^ 64) (hh : hdr.length < 2 ^ 64) :
    locateHeader (sigHeaderBytes area.length hdr.length (crc32 hdr) ++ area ++ hdr ++ junk) = some (area.length, hdr) := by
  rw [List.append_assoc, List.append_assoc]
  obtain ⟨hlen, -, -, -, h3, h4, -, h6⟩ := sig_read area.length hdr.length (crc32 hdr) (area ++ (hdr ++ junk))
  unfold locateHeader
  simp only [hlen, h3, h4, h6, ofLE_leBytes_lt area.length 8 (by omega), ofLE_leBytes_lt hdr.length 8 (by omega),
    List.length_append, ← List.drop_drop, List.drop_left' rfl, List.take_left' rfl]
  have e1 : ¬ (32 + (area.length + (hdr.length + junk.length)) < 32) := by omega
  have e2 : ¬ (32 + area.length + hdr.length > 32 + (area.length + (hdr.length + junk.length))) := by omega
  simp [e1, e2]

structure WFConfig {σ} (cfg : WConfig σ) : Prop where
  ncoders : 0 < cfg.coders.length ∧ cfg.coders.length ≤ 32
  simple : ∀ c ∈ cfg.coders, c.numIn = 1 ∧ c.numOut = 1
  coders : ∀ c ∈ cfg.coders, WFCoder c
  mapLen : cfg.methodsMap.length = cfg.coders.length
  chainNe : cfg.chain ≠ []
  fresh : headFed cfg.chain = 0

structure WFMembers (ms : List WMember) : Prop where
  scalar : ∀ m ∈ ms, ∀ c ∈ m.name, IsScalar c
  count : ms.length < 2 ^ 32
  mtimes : ∀ m ∈ ms, ∀ t, m.mtime = .val t → t < 256 ^ 8
  attrs : ∀ m ∈ ms, ∀ t, m.attr = .val t → t < 256 ^ 4
  namesSize : ((ms.map (·.name)).map (fun n => 2 * (n.flatMap unitsOf).length + 2)).sum + 1 < 2 ^ 64
  sizes : ∀ m ∈ ms, m.blocks.flatten.length < 2 ^ 64

theorem sessionFolder_chain {σ} (cfg : WConfig σ) (wfc : WFConfig cfg) (us : List Nat)
    (hlen : us.length = cfg.coders.length) (hb : ∀ v ∈ us, v < 2 ^ 64) : ChainFolder (sessionFolder cfg us) :=
  ⟨wfc.ncoders, wfc.simple, wfc.coders, rfl, hlen, hb⟩

def memberFile (m : WMember) : SFile :=
  { name := some m.name, emptyStream := m.emptystream, mtime := slotOpt m.mtime, attr := slotOpt m.attr }

/-- what an independent reader must recover: every member in call order under its name, with
    its flags, time and attribute word; every data member in folder 0 at the offset where the
    previous ones end, with the length and the CRC-32 of its bytes -/
def expectedMembers (ms : List WMember) : List SMember :=
  singleFolderMembers (ms.map memberFile) 0 ((dataMembers ms).map (fun m => m.blocks.flatten.length))
    ((dataMembers ms).map (fun m => some (crc32 m.blocks.flatten)))

theorem memberFile_count (ms : List WMember) :
    ((ms.map memberFile).filter (fun f => !f.emptyStream)).length = (dataMembers ms).length := by
  simp only [List.filter_map, List.length_map, dataMembers]; rfl

theorem sessionFiles_toSFile (ms : List WMember) : (sessionFiles ms).files.map toSFile = ms.map memberFile := by
  simp [sessionFiles, toSFile, memberFile, Function.comp_def]

theorem subCrcs_all_defined (res : List (Nat × Nat)) :
    ((res.map (fun _ => true)).zip (res.map (·.2))).map (fun ((d, c) : Bool × Nat) => if d then some c else none) =
      res.map (fun r => some r.2) := by
  rw [List.zip_map', List.map_map]; simp [Function.comp_def]

theorem spec_assign_session (ms : List WMember) :
    assign (ms.map memberFile) [(dataMembers ms).length] ((dataMembers ms).map (fun m => m.blocks.flatten.length))
      ((dataMembers ms).map (fun m => some (crc32 m.blocks.flatten))) = .ok (expectedMembers ms) := by
  unfold assign expectedMembers
  rw [← folderMembers_zero]
  exact (Assigns.folder 0 _ [] _ 0 0 _ _ (by simpa using memberFile_count ms) (by simp) (by simp)).assignGo _ (by simp)

theorem sessionCompress_facts {σ} (cfg : WConfig σ) (wfc : WFConfig cfg) (ms : List WMember) :
    (sessionCompress cfg ms).2 = (dataMembers ms).map (fun m => (m.blocks.flatten.length, crc32 m.blocks.flatten)) ∧
    headFed (sessionCompress cfg ms).1.chain = ((dataMembers ms).map (fun m => m.blocks.flatten.length)).sum ∧
    (sessionCompress cfg ms).1.packsize = (sessionCompress cfg ms).1.out.length ∧
    (sessionCompress cfg ms).1.digest = crc32 (sessionCompress cfg ms).1.out ∧
    (sessionCompress cfg ms).1.chain ≠ [] := by
  have h := compressor_accounting cfg.chain wfc.chainNe wfc.fresh ((dataMembers ms).map (·.blocks))
  simp only [List.map_map, Function.comp_def] at h
  obtain ⟨h1, h2, h3, h4, h5⟩ := h
  refine ⟨h1, h2, h3, h4, ?_⟩
  intro h0
  have : (sessionCompress cfg ms).1.chain.length = cfg.chain.length := h5
  rw [h0] at this
  exact wfc.chainNe (List.eq_nil_of_length_eq_zero this.symm)

theorem headFed_getElem {σ} (ch : List (StageSt σ)) (h : ch ≠ []) : (ch.map (·.fed))[0]? = some (headFed ch) := by
  cases ch with
  | nil => exact absurd rfl h
  | cons c cs => rfl

/-- `compressor._unpacksizes` at `close()`: one entry per coder, the last of them what the members fed into the
    chain -/
theorem unpacksizes_last {σ} (cfg : WConfig σ) (wfc : WFConfig cfg) (ms : List WMember) (us : List Nat)
    (hU : unpacksizesOf cfg.methodsMap ((sessionCompress cfg ms).1.chain.map (·.fed)) = some us) :
    us.length = cfg.coders.length ∧
    us.getD (cfg.coders.length - 1) 0 = ((dataMembers ms).map (fun m => m.blocks.flatten.length)).sum := by
  obtain ⟨-, f2, -, -, f5⟩ := sessionCompress_facts cfg wfc ms
  obtain ⟨m0, mrest, hmm⟩ : ∃ m0 mrest, cfg.methodsMap = m0 :: mrest := by
    cases hm : cfg.methodsMap with
    | nil => exact absurd wfc.ncoders.1 (by rw [← wfc.mapLen, hm]; exact Nat.lt_irrefl 0)
    | cons a b => exact ⟨a, b, rfl⟩
  rw [hmm] at hU
  obtain ⟨u1, u2⟩ := unpacksizesOf_spec m0 mrest _ us hU
  have huslen : us.length = cfg.coders.length := by rw [u2, ← wfc.mapLen, hmm]; simp
  rw [headFed_getElem _ f5, f2, List.getLast?_eq_getElem?, huslen] at u1
  exact ⟨huslen, by simp [List.getD, u1]⟩

/-- What one session adds to a header object, whatever it is added to (a fresh header in a create session, the
    header that was read in an append session): the members' sizes and digests, one packed stream, one folder of
    chained coders whose unpack size is the sum of the sizes. -/
structure SessionPart {σ} (cfg : WConfig σ) (ms : List WMember) (us : List Nat) : Prop where
  res : (sessionCompress cfg ms).2 = (dataMembers ms).map (fun m => (m.blocks.flatten.length, crc32 m.blocks.flatten))
  packsize : (sessionCompress cfg ms).1.packsize = (sessionCompress cfg ms).1.out.length
  digest : (sessionCompress cfg ms).1.digest < 256 ^ 4
  chain : ChainFolder (sessionFolder cfg us)
  last : us.getD (cfg.coders.length - 1) 0 = ((sessionCompress cfg ms).2.map (·.1)).sum
  count : (sessionCompress cfg ms).2.length < 2 ^ 64
  countLe : (sessionCompress cfg ms).2.length ≤ ms.length
  sizes : ∀ v ∈ (sessionCompress cfg ms).2.map (·.1), v < 2 ^ 64
  digests : ∀ x ∈ (sessionCompress cfg ms).2.map (·.2), x < 256 ^ 4

theorem sessionPart {σ} (cfg : WConfig σ) (ms : List WMember) (us : List Nat) (wfc : WFConfig cfg) (wfm : WFMembers ms)
    (hU : unpacksizesOf cfg.methodsMap ((sessionCompress cfg ms).1.chain.map (·.fed)) = some us)
    (husb : ∀ v ∈ us, v < 2 ^ 64) : SessionPart cfg ms us := by
  obtain ⟨f1, -, f3, f4, -⟩ := sessionCompress_facts cfg wfc ms
  obtain ⟨huslen, huslast⟩ := unpacksizes_last cfg wfc ms us hU
  have hcount : (sessionCompress cfg ms).2.length ≤ ms.length := by
    rw [f1, List.length_map]; exact List.length_filter_le _ _
  exact {
    res := f1
    packsize := f3
    digest := by rw [f4]; exact crc32Update_lt 0 _
    chain := sessionFolder_chain cfg wfc us huslen husb
    last := by rw [huslast, f1, List.map_map]; rfl
    count := Nat.lt_of_le_of_lt hcount (Nat.lt_trans wfm.count (by decide))
    countLe := hcount
    sizes := by
      rw [f1, List.map_map]
      exact List.forall_mem_map.2 fun m hm => wfm.sizes m (List.mem_filter.1 hm).1
    digests := by
      rw [f1, List.map_map]
      exact List.forall_mem_map.2 fun _ _ => crc32Update_lt 0 _ }

theorem sessionFiles_wf (ms : List WMember) (wfm : WFMembers ms) : WFFiles (sessionFiles ms) where
  named := List.forall_mem_map.2 fun _ _ => rfl
  scalar := List.forall_mem_map.2 wfm.scalar
  count := (List.length_map _).symm ▸ wfm.count
  mtimes := List.forall_mem_map.2 wfm.mtimes
  attrs := List.forall_mem_map.2 wfm.attrs
  namesSize := by simpa [sessionFiles, nameOf, Function.comp_def] using wfm.namesSize
  emptyFiles := by intro he; simpa [sessionFiles, Function.comp_def] using he

/-- the parts of a header object with data streams -/
structure HParts where
  p : PackInfo
  fs : List Folder
  ss : SubStreams
  sizes : List Nat
  fi : FilesInfo

def HParts.streams (c : HParts) : Streams := { packinfo := some c.p, folders := some c.fs, substreams := some c.ss }

def HParts.header (c : HParts) : Header := { mainStreams := some c.streams, filesInfo := some c.fi }

/-- what the strict reader makes of it -/
def HParts.expected (c : HParts) : SHeader := expectedHeader c.p c.fs c.ss c.sizes c.fi

/-- the format's assignment for the header object -/
def HParts.content (c : HParts) : Except String (List SMember) :=
  assign (c.fi.files.map toSFile) c.ss.numUnpack c.sizes (expectedSubCrcs c.ss)

def sessionComps {σ} (cfg : WConfig σ) (ms : List WMember) (us : List Nat) : HParts :=
  { p := { packpos := 0, numstreams := 1, packsizes := [(sessionCompress cfg ms).1.packsize],
           digestdefined := if cfg.enableDigests then [true] else [],
           crcs := if cfg.enableDigests then [(sessionCompress cfg ms).1.digest] else [],
           enableDigests := cfg.enableDigests },
    fs := [sessionFolder cfg us],
    ss := { numUnpack := [(sessionCompress cfg ms).2.length],
            unpacksizes := some ((sessionCompress cfg ms).2.map (·.1)),
            digestsdefined := (sessionCompress cfg ms).2.map (fun _ => true),
            digests := (sessionCompress cfg ms).2.map (·.2) },
    sizes := (sessionCompress cfg ms).2.map (·.1),
    fi := sessionFiles ms }

theorem sessionHeader_eq {σ} (cfg : WConfig σ) (ms : List WMember) (us : List Nat)
    (hU : unpacksizesOf cfg.methodsMap ((sessionCompress cfg ms).1.chain.map (·.fed)) = some us) :
    sessionHeader cfg ms = some (sessionComps cfg ms us).header := by
  unfold sessionHeader
  simp only [hU]
  rfl

theorem sessionHeader_some {σ} {cfg : WConfig σ} {ms : List WMember} {H : Header} (h : sessionHeader cfg ms = some H) :
    ∃ us, unpacksizesOf cfg.methodsMap ((sessionCompress cfg ms).1.chain.map (·.fed)) = some us ∧
      H = (sessionComps cfg ms us).header := by
  cases hU : unpacksizesOf cfg.methodsMap ((sessionCompress cfg ms).1.chain.map (·.fed)) with
  | none => simp [sessionHeader, hU] at h
  | some us => exact ⟨us, rfl, Option.some.inj (h.symm.trans (sessionHeader_eq cfg ms us hU))⟩

theorem SessionPart.wfPack {σ} {cfg : WConfig σ} {ms : List WMember} {us : List Nat} (sp : SessionPart cfg ms us)
    (hout : (sessionCompress cfg ms).1.out.length < 2 ^ 64) : WFPack (sessionComps cfg ms us).p := by
  refine ⟨by show (0:Nat) < 2 ^ 64; decide, by show (1:Nat) < 2 ^ 64; decide, ?_, ?_, ?_⟩
  · intro v hv; simp only [sessionComps, List.mem_singleton] at hv; rw [hv, sp.packsize]; exact hout
  · intro he
    cases hed : cfg.enableDigests <;> simp [sessionComps, hed] at he ⊢
  · intro c hc
    cases hed : cfg.enableDigests <;> simp [sessionComps, hed] at hc
    rw [hc]; exact sp.digest

theorem SessionPart.wfStreams {σ} {cfg : WConfig σ} {ms : List WMember} {us : List Nat} (sp : SessionPart cfg ms us)
    (hout : (sessionCompress cfg ms).1.out.length < 2 ^ 64) :
    WFStreams (sessionComps cfg ms us).streams (sessionComps cfg ms us).p (sessionComps cfg ms us).fs
      (sessionComps cfg ms us).ss (sessionComps cfg ms us).sizes := by
  have hl : ((sessionCompress cfg ms).2.map (·.1)).length = (sessionCompress cfg ms).2.length := List.length_map _
  exact {
    hp := rfl
    hf := rfl
    hs := rfl
    pack := sp.wfPack hout
    nfolders := by show (1:Nat) < 2 ^ 64; decide
    fne := by simp [sessionComps]
    folders := List.forall_mem_singleton.2 sp.chain.wf
    packedCount := by simp [sp.chain.packedOf_eq, sessionComps]
    nlen := rfl
    nums := List.forall_mem_singleton.2 sp.count
    usizes := rfl
    -- one folder, whose sub-stream sizes are all the sizes and sum to its last unpack size
    tiles := ⟨Nat.le_of_eq hl.symm,
      Or.inr (by
        show folderOut _ = .ok (List.take _ ((sessionCompress cfg ms).2.map (·.1))).sum
        rw [sp.chain.folderOut_eq, ← hl, List.take_length]; exact congrArg Except.ok sp.last),
      by show List.drop _ ((sessionCompress cfg ms).2.map (·.1)) = []; rw [← hl, List.drop_length]⟩
    sizesBound := sp.sizes
    ddlen := by simp [sessionComps]
    dlen := by simp [sessionComps]
    dbound := sp.digests }

theorem sessionComps_content {σ} (cfg : WConfig σ) (ms : List WMember) (us : List Nat) (wfc : WFConfig cfg) :
    (sessionComps cfg ms us).content = .ok (expectedMembers ms) := by
  obtain ⟨f1, _, _, _, _⟩ := sessionCompress_facts cfg wfc ms
  show assign ((sessionFiles ms).files.map toSFile) [(sessionCompress cfg ms).2.length] ((sessionCompress cfg ms).2.map (·.1))
    (((sessionCompress cfg ms).2.map (fun _ => true)).zip ((sessionCompress cfg ms).2.map (·.2)) |>.map
      (fun ((d, c) : Bool × Nat) => if d then some c else none)) = _
  rw [sessionFiles_toSFile, subCrcs_all_defined, f1, List.length_map, List.map_map, List.map_map]
  exact spec_assign_session ms

theorem session_archive_conforms {σ} (cfg : WConfig σ) (ms : List WMember) (img : Bytes)
    (wfc : WFConfig cfg) (wfm : WFMembers ms)
    (hout : (sessionCompress cfg ms).1.out.length < 2 ^ 64)
    (hus : ∀ us, unpacksizesOf cfg.methodsMap ((sessionCompress cfg ms).1.chain.map (·.fed)) = some us → ∀ v ∈ us, v < 2 ^ 64)
    (hhl : ∀ H hdr, sessionHeader cfg ms = some H →
      writeHeaderRaw true H (32 + (sessionCompress cfg ms).1.out.length) = some hdr → hdr.length < 2 ^ 64)
    (h : sessionArchive cfg ms = some img) :
    ∃ H st, readArchive img = .ok { top := .raw H, dataArea := (sessionCompress cfg ms).1.out } ∧
      H.streams = some st ∧ tilesExactly st (sessionCompress cfg ms).1.out = true ∧
      members H = .ok (expectedMembers ms) := by
  unfold sessionArchive at h
  cases hH : sessionHeader cfg ms with
  | none => simp [hH] at h
  | some H0 =>
    obtain ⟨us, hU, rfl⟩ := sessionHeader_some hH
    cases hW : writeHeaderRaw true (sessionComps cfg ms us).header (32 + (sessionCompress cfg ms).1.out.length) with
    | none => simp [hH, hW] at h
    | some hdr =>
      simp only [hH, hW, bind, Option.bind, pure, Option.some.injEq] at h
      subst h
      have sp := sessionPart cfg ms us wfc wfm hU (hus us hU)
      rw [readArchive_assembled _ _ hout (hhl _ hdr hH hW),
        spec_reads_header _ _ _ _ _ _ _ rfl rfl (sp.wfStreams hout) (sessionFiles_wf ms wfm) _ hdr hW]
      exact ⟨_, _, rfl, rfl, by simp [tilesExactly, expectedStreams, expectedPack, sessionComps, sp.packsize],
        sessionComps_content cfg ms us wfc⟩

/-- cut the member's bytes out of the folder's decoded output -/
def sliceOf (D : Bytes) (m : SMember) : Option Bytes :=
  m.stream.map (fun x => (D.drop x.2.1).take x.2.2.1)

/-- the (offset, size) pairs the format assigns in a single folder cut the concatenation of the
    members' bytes back into exactly the members' bytes, in order -/
theorem slices_recover : ∀ (files : List SFile) (datas : List Bytes) (pre : Bytes) (crcs : List (Option Nat)),
    (files.filter (fun f => !f.emptyStream)).length = datas.length → crcs.length = datas.length →
    (singleFolderMembers files pre.length (datas.map List.length) crcs).filterMap (sliceOf (pre ++ datas.flatten)) = datas := by
  intro files
  induction files with
  | nil =>
    intro datas pre crcs h _
    have : datas = [] := List.eq_nil_of_length_eq_zero (by simpa using h.symm)
    subst this; rfl
  | cons f fs ih =>
    intro datas pre crcs h hc
    unfold singleFolderMembers
    by_cases he : f.emptyStream = true
    · simp only [he, if_true, List.filterMap_cons, sliceOf, Option.map_none]
      exact ih datas pre crcs (by simpa [List.filter_cons, he] using h) hc
    · have he' : f.emptyStream = false := by simpa using he
      simp only [he', Bool.false_eq_true, if_false]
      cases datas with
      | nil => simp [he'] at h
      | cons d ds =>
        cases crcs with
        | nil => simp at hc
        | cons c cs =>
          simp only [List.map_cons, List.filterMap_cons, sliceOf, Option.map_some, List.flatten_cons]
          have h1 : ((pre ++ (d ++ ds.flatten)).drop pre.length).take d.length = d := by
            rw [List.drop_left' rfl, List.take_left' rfl]
          rw [h1]
          have := ih ds (pre ++ d) cs (by simpa [List.filter_cons, he'] using h) (by simpa using hc)
          simp only [List.length_append, List.append_assoc] at this
          rw [this]

theorem expectedMembers_roundtrip (ms : List WMember) :
    (expectedMembers ms).map (·.file.name) = ms.map (fun m => some m.name) ∧
    (expectedMembers ms).filterMap (sliceOf (((dataMembers ms).map (fun m => m.blocks.flatten)).flatten)) =
      (dataMembers ms).map (fun m => m.blocks.flatten) := by
  have hcount := memberFile_count ms
  constructor
  · have := (assigns_of_assignGo _ _ _ _ _ _ _ _ _ (spec_assign_session ms)).files
    have := congrArg (List.map (·.name)) this
    simpa only [List.map_map, Function.comp_def, memberFile] using this
  · have := slices_recover (ms.map memberFile) ((dataMembers ms).map (fun m => m.blocks.flatten)) []
      ((dataMembers ms).map (fun m => some (crc32 m.blocks.flatten))) (by simpa using hcount) (by simp)
    simp only [List.map_map, List.length_nil, List.nil_append, Function.comp_def] at this
    exact this

end SevenZ
