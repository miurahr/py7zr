/- The chunked decode loop: `decompress` hands out the live buffer and then decoded bytes, cut at the
   request (`decompress_eq`); nothing is lost or duplicated across calls; the guarded worker loop decreases a
   lexicographic measure (`loopMeasure`, `workerLoop_step`). -/
import SevenZ.Model.Decode
namespace SevenZ
open Impl

/-- `_read_data` without its case split: with nothing left to read it takes and drops 0 bytes -/
theorem readData_eq {σ} (cfg : DecCfg) (st : DecState σ) :
    readData cfg st =
      (st.src.take (min (cfg.inputSize - st.consumed) cfg.blockSize),
       { st with consumed := st.consumed + (st.src.take (min (cfg.inputSize - st.consumed) cfg.blockSize)).length,
                 src := st.src.drop (min (cfg.inputSize - st.consumed) cfg.blockSize) }) := by
  unfold readData
  dsimp only
  split
  · rfl
  · rename_i h
    rw [Nat.eq_zero_of_not_pos h]
    rfl

/-- One call, in terms of the unread part `live` of the carry-over buffer: a request the buffer
    covers is served from it; otherwise one block goes through the chain, its output is put
    behind `live`, and the whole is cut at `m` into the result and the new buffer (the model's
    two sub-cases are this cut with the new buffer empty or not). -/
theorem decompress_eq {σ} (ch : Chain σ) (cfg : DecCfg) (st : DecState σ) (m : Nat) :
    decompress ch cfg st m =
      if m ≤ st.live.length then (st.live.take m, [], { st with pos := st.pos + m })
      else
        let rd := readData cfg st
        let r := ch.dec st.chain rd.1 m
        ((st.live ++ r.2).take m, r.2,
          { rd.2 with chain := r.1, buf := (st.live ++ r.2).drop m, pos := 0 }) := by
  have hl : st.buf.length - st.pos = st.live.length := List.length_drop.symm
  have hb : (readData cfg st).2.buf.drop (readData cfg st).2.pos = st.live := by rw [readData_eq]; rfl
  have hc : (readData cfg st).2.chain = st.chain := by rw [readData_eq]
  unfold decompress
  simp only [hl, hb, hc, ge_iff_le]
  by_cases h : m ≤ st.live.length
  · rw [if_pos h, if_pos h]; rfl
  · rw [if_neg h, if_neg h, List.take_append, List.drop_append, List.take_of_length_le (Nat.le_of_not_le h),
      List.drop_of_length_le (Nat.le_of_not_le h)]
    split
    · next hfit =>
      rw [List.take_of_length_le (Nat.le_sub_of_add_le' hfit), List.drop_of_length_le (Nat.le_sub_of_add_le' hfit)]
      rfl
    · rfl

theorem decompress_len_le {σ} (ch : Chain σ) (cfg : DecCfg) (st : DecState σ) (m : Nat) :
    (decompress ch cfg st m).1.length ≤ m := by
  rw [decompress_eq]; split <;> exact List.length_take_le _ _

theorem decompress_conserve {σ} (ch : Chain σ) (cfg : DecCfg) (st : DecState σ) (m : Nat) :
    (decompress ch cfg st m).1 ++ (decompress ch cfg st m).2.2.live =
      st.live ++ (decompress ch cfg st m).2.1 := by
  rw [decompress_eq]; split
  · simp only [DecState.live, ← List.drop_drop, List.take_append_drop, List.append_nil]
  · exact List.take_append_drop _ _

theorem unread_shrinks {size c t : Nat} (ht : t ≤ size - c) :
    size - (c + t) ≤ size - c ∧ (c + t ≠ c → size - (c + t) < size - c) := by
  omega

theorem decompress_consumed {σ} (ch : Chain σ) (cfg : DecCfg) (st : DecState σ) (m : Nat) :
    cfg.inputSize - (decompress ch cfg st m).2.2.consumed ≤ cfg.inputSize - st.consumed ∧
    ((decompress ch cfg st m).2.2.consumed ≠ st.consumed →
      cfg.inputSize - (decompress ch cfg st m).2.2.consumed < cfg.inputSize - st.consumed) := by
  rw [decompress_eq]; split
  · exact ⟨Nat.le_refl _, fun h => absurd rfl h⟩
  · rw [readData_eq]
    exact unread_shrinks (Nat.le_trans (List.length_take_le _ st.src) (Nat.min_le_left _ _))

def isOutOfFuel {σ} : LoopResult σ → Bool
  | .outOfFuel => true
  | _ => false

/-- the lexicographic order on pairs `(a, r)` with `r < K`, as the number `a * K + r` -/
theorem lex_lt {a b K r : Nat} (s : Nat) (hab : a < b) (hr : r < K) : a * K + r < b * K + s := by
  have := Nat.mul_le_mul_right K hab
  rw [Nat.succ_mul] at this
  omega

/-- How many more iterations the guarded loop can make: each one either makes progress — less
    output wanted or less input unread — or uses up one of the `k + 1` stalls allowed in a row. -/
def loopMeasure {σ} (cfg : DecCfg) (k : Nat) (st : DecState σ) (out stalled : Nat) : Nat :=
  (out + (cfg.inputSize - st.consumed)) * (k + 2) + (k + 1 - stalled)

theorem workerLoop_step {σ} (ch : Chain σ) (cfg : DecCfg) (mb k fuel : Nat) (st : DecState σ)
    (out stalled : Nat) (acc : Bytes) :
    isOutOfFuel (workerLoop ch cfg mb (some k) (fuel + 1) st out stalled acc) = false ∨
    ∃ st' out' stalled' acc',
      workerLoop ch cfg mb (some k) (fuel + 1) st out stalled acc =
        workerLoop ch cfg mb (some k) fuel st' out' stalled' acc' ∧
      loopMeasure cfg k st' out' stalled' < loopMeasure cfg k st out stalled := by
  have hc := decompress_consumed ch cfg st (min out mb)
  rw [workerLoop]
  generalize decompress ch cfg st (min out mb) = r at hc ⊢
  dsimp only
  -- the four tests of `workerLoop`, in its order (named one by one: `split` here is several times dearer to check)
  by_cases h0 : out = 0
  · rw [if_pos h0]; exact .inl rfl
  rw [if_neg h0]
  by_cases h1 : r.1.length > 0
  · -- output was produced: less is wanted, and no more is unread
    rw [if_pos h1]
    exact .inr ⟨_, _, _, _, rfl, lex_lt _
      (Nat.add_lt_add_of_lt_of_le (Nat.sub_lt (Nat.pos_of_ne_zero h0) h1) hc.1) (Nat.lt_succ_self _)⟩
  rw [if_neg h1]
  by_cases h2 : r.2.2.consumed ≠ st.consumed
  · -- input was read: less is unread
    rw [if_pos h2]
    exact .inr ⟨_, _, _, _, rfl, lex_lt _ (Nat.add_lt_add_left (hc.2 h2) out) (Nat.lt_succ_self _)⟩
  rw [if_neg h2]
  by_cases h3 : stalled + 1 > k
  · rw [if_pos h3]; exact .inl rfl
  rw [if_neg h3]
  refine .inr ⟨_, _, _, _, rfl, ?_⟩
  -- a stall: same output wanted, same input unread, one stall fewer left
  unfold loopMeasure
  rw [Decidable.not_not.mp h2]
  omega

/-- with the progress guard the loop ends — for every decoder, every input — within
    `(out + unread input + 1)·(k+2)` iterations -/
theorem workerLoop_terminates {σ} (ch : Chain σ) (cfg : DecCfg) (mb k : Nat) :
    ∀ (fuel : Nat) (st : DecState σ) (out stalled : Nat) (acc : Bytes),
      loopMeasure cfg k st out stalled < fuel →
      isOutOfFuel (workerLoop ch cfg mb (some k) fuel st out stalled acc) = false := by
  intro fuel
  induction fuel with
  | zero => intro _ _ _ _ h; omega
  | succ fuel ih =>
    intro st out stalled acc h
    obtain h1 | ⟨st', out', stalled', acc', h1, hμ⟩ := workerLoop_step ch cfg mb k fuel st out stalled acc
    · exact h1
    · rw [h1]; exact ih _ _ _ _ (by omega)

def emptyChain : Chain Unit := { dec := fun s _ _ => (s, []) }

theorem decompress_stuck (cfg : DecCfg) (st : DecState Unit) (m : Nat) (hm : 0 < m)
    (hb : st.buf = []) (hp : st.pos = 0) (hs : st.src = []) :
    decompress emptyChain cfg st m = ([], [], st) := by
  obtain ⟨c, b, p, n, s⟩ := st
  subst hb hp hs
  simp [decompress_eq, readData_eq, DecState.live, emptyChain, Nat.not_le_of_gt hm]

theorem workerLoop_spins (cfg : DecCfg) (mb : Nat) (hmb : 0 < mb) (st : DecState Unit)
    (hb : st.buf = []) (hp : st.pos = 0) (hs : st.src = []) :
    ∀ (fuel out stalled : Nat) (acc : Bytes), 0 < out →
      isOutOfFuel (workerLoop emptyChain cfg mb none fuel st out stalled acc) = true := by
  intro fuel
  induction fuel with
  | zero => intro out stalled acc _; rfl
  | succ fuel ih =>
    intro out stalled acc hout
    rw [workerLoop, if_neg (Nat.ne_of_gt hout), decompress_stuck cfg st _ (Nat.lt_min.mpr ⟨hout, hmb⟩) hb hp hs]
    simp only [List.length_nil, Nat.lt_irrefl, if_false, ne_eq, not_true_eq_false]
    exact ih out (stalled + 1) acc hout

theorem buf_stays_empty {σ} (ch : Chain σ) (cfg : DecCfg) (st : DecState σ) (m : Nat)
    (hon : ∀ s d k, (ch.dec s d k).2.length ≤ k) (hb : st.buf = []) :
    (decompress ch cfg st m).2.2.buf = [] := by
  rw [decompress_eq]; split
  · exact hb
  · simp only [DecState.live, hb, List.drop_nil, List.nil_append]
    exact List.drop_of_length_le (hon _ _ _)

theorem buf_le_output {σ} (ch : Chain σ) (cfg : DecCfg) (st : DecState σ) (m : Nat) :
    (decompress ch cfg st m).2.2.buf.length ≤ max st.buf.length (decompress ch cfg st m).2.1.length := by
  rw [decompress_eq]; split
  · exact Nat.le_max_left _ _
  · simp only [List.length_drop, List.length_append]; omega

def runCalls {σ} (ch : Chain σ) (cfg : DecCfg) : DecState σ → List Nat → List Bytes × List Bytes × DecState σ
  | st, [] => ([], [], st)
  | st, m :: ms =>
    let r := decompress ch cfg st m
    let rest := runCalls ch cfg r.2.2 ms
    (r.1 :: rest.1, r.2.1 :: rest.2.1, rest.2.2)

theorem decompress_concat {σ} (ch : Chain σ) (cfg : DecCfg) (ms : List Nat) :
    ∀ st : DecState σ,
      (runCalls ch cfg st ms).1.flatten ++ (runCalls ch cfg st ms).2.2.live =
        st.live ++ (runCalls ch cfg st ms).2.1.flatten := by
  induction ms with
  | nil => intro st; simp [runCalls]
  | cons m ms ih =>
    intro st
    simp only [runCalls, List.flatten_cons, List.append_assoc]
    rw [ih, ← List.append_assoc, decompress_conserve, List.append_assoc]

end SevenZ
