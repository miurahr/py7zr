/-
What py7zr's writer emits for the FilesInfo section, as any reader meets it: the member lists it
can describe (`WFFiles`), each property block as id, Size and a body of exactly that size, and the
section as the sequence of its blocks.  Nothing here mentions a reader.
-/
import SevenZ.Model.Header
import SevenZ.Lemmas.Number
import SevenZ.Lemmas.BoolVec
import SevenZ.Lemmas.Utf16
namespace SevenZ
open Impl

/-- a slot as it comes back from the file: the key is set, to a value or to None (an absent key is written like None) -/
def normSlot : Slot Nat → Slot Nat
  | .val t => .val t
  | _ => .undef

def payload (w : Nat) : List (Slot Nat) → Bytes
  | [] => []
  | .val t :: ss => leBytes t w ++ payload w ss
  | .absent :: ss => payload w ss
  | .undef :: ss => payload w ss

theorem payload_eq_flatMap (w : Nat) (slots : List (Slot Nat)) :
    slots.flatMap (slotBytes w) = payload w slots := by
  induction slots with
  | nil => rfl
  | cons s ss ih => cases s <;> simp [payload, slotBytes, ih]

theorem slotBytes_length (w : Nat) (slots : List (Slot Nat)) :
    (slots.flatMap (slotBytes w)).length = ((slots.map Slot.isVal).filter id).length * w := by
  induction slots with
  | nil => simp
  | cons s ss ih =>
    cases s <;> simp [slotBytes, Slot.isVal, ih, leBytes_length, Nat.add_mul] <;> omega

theorem writeBools_true_length (bs : List Bool) :
    (writeBools bs true).length = if bs.all id then 1 else 1 + bitsToBytes bs.length := by
  by_cases h : bs.all id = true <;> simp [writeBools, h, packBits_length, Nat.add_comm]

/-- what follows the Size of a written time (`w = 8`) or attribute (`w = 4`) property: definedness
    vector, the "external" byte, a value per defined entry -/
def vectorBody (w : Nat) (slots : List (Slot Nat)) : Bytes :=
  writeBools (slots.map Slot.isVal) true ++ ([0x00] ++ slots.flatMap (slotBytes w))

/-- the body of a time or attribute property has exactly the length its (repaired) Size field announces -/
theorem vectorBody_length (w : Nat) (slots : List (Slot Nat)) :
    (vectorBody w slots).length = ((slots.map Slot.isVal).filter id).length * w + 2 +
      (if (slots.map Slot.isVal).all id then 0 else bitsToBytes (slots.map Slot.isVal).length) := by
  simp only [vectorBody, List.length_append, writeBools_true_length, slotBytes_length, List.length_singleton]
  split <;> omega

theorem zip_map_map {α β γ δ : Type} (l : List α) (g : α → β) (h : α → γ) (F : β × γ → δ) :
    ((l.map g).zip (l.map h)).map F = l.map (fun e => F (g e, h e)) := by
  simp [List.zip_map', List.map_map, Function.comp_def]

/-- `_write_attributes` asks whether all entries are defined by counting them -/
theorem all_id_iff_filter_length (bs : List Bool) : bs.all id = true ↔ (bs.filter id).length = bs.length := by
  rw [List.length_filter_eq_length_iff, List.all_eq_true]

/-- `fp.read(size)` and `fp.seek` take the Size as a signed 64-bit number -/
theorem vectorBody_lt {w : Nat} (hw : w ≤ 8) (slots : List (Slot Nat)) (hn : slots.length < 2 ^ 32) :
    (vectorBody w slots).length < 2 ^ 63 := by
  have h1 : ((slots.map Slot.isVal).filter id).length * w ≤ slots.length * 8 :=
    Nat.mul_le_mul (by simpa using List.length_filter_le id (slots.map Slot.isVal)) hw
  have h2 : bitsToBytes (slots.map Slot.isVal).length ≤ slots.length := by simp [bitsToBytes]; omega
  rw [vectorBody_length]
  split <;> omega

/-- a time property as a reader meets it: id, Size, and a body of exactly that size -/
theorem timesBlock_eq (pid : Nat) (slots : List (Slot Nat)) :
    timesBlock true pid slots = [pid] ++ (writeNumber (vectorBody 8 slots).length ++ vectorBody 8 slots) := by
  rw [vectorBody_length]
  simp only [timesBlock, vectorBody, if_true, List.append_assoc]

theorem attrsBlock_eq (slots : List (Slot Nat)) :
    attrsBlock true slots = [0x15] ++ (writeNumber (vectorBody 4 slots).length ++ vectorBody 4 slots) := by
  rw [vectorBody_length]
  simp only [attrsBlock, vectorBody, if_true, List.append_assoc, ne_eq, ← all_id_iff_filter_length, ite_not]

/-- every property starts with its id: a turn of the loop consumes something -/
theorem length_pos_of_eq {b l : Bytes} {x : Nat} (h : b = [x] ++ l) : 0 < b.length := h ▸ Nat.zero_lt_succ _

theorem timesBlock_length_ge (p : Nat) (slots : List (Slot Nat)) : 2 ≤ (timesBlock true p slots).length := by
  unfold timesBlock; simp only [List.length_append, List.length_cons, List.length_nil]; omega

theorem names_bytes_length (names : List (List Nat)) :
    (names.flatMap writeUtf16).length = (names.map (fun n => 2 * (n.flatMap unitsOf).length + 2)).sum := by
  induction names with
  | nil => rfl
  | cons nm rest ih =>
    simp only [List.flatMap_cons, List.length_append, List.map_cons, List.sum_cons, ih, writeUtf16,
      unitsToBytes_length, List.length_cons, List.length_nil]

/-- the Names property as a reader meets it: id, Size, and a body of exactly that size — the "external" byte and
    the names, each with its terminator -/
theorem namesBlock_eq (entries : List FileEntry) (names : List (List Nat)) (hnames : entries.filterMap (·.filename) = names)
    (hne : names ≠ []) :
    namesBlock entries = [0x11] ++ (writeNumber ((names.map (fun n => 2 * (n.flatMap unitsOf).length + 2)).sum + 1) ++
      ([0x00] ++ names.flatMap writeUtf16)) ∧
    ([0x00] ++ names.flatMap writeUtf16).length = (names.map (fun n => 2 * (n.flatMap unitsOf).length + 2)).sum + 1 := by
  refine ⟨?_, by rw [List.length_append, names_bytes_length, Nat.add_comm]; rfl⟩
  unfold namesBlock
  rw [hnames, if_neg (by simpa using hne), List.append_assoc, List.append_assoc]

def nameOf (e : FileEntry) : List Nat := e.filename.getD []

theorem filename_eq {e : FileEntry} (h : e.filename.isSome = true) : e.filename = some (nameOf e) := by
  cases hf : e.filename with
  | none => rw [hf] at h; cases h
  | some nm => simp [nameOf, hf]

theorem filterMap_names (files : List FileEntry) (h : ∀ e ∈ files, e.filename.isSome = true) :
    files.filterMap (·.filename) = files.map nameOf := by
  induction files with
  | nil => rfl
  | cons e es ih =>
    rw [List.filterMap_cons, filename_eq (h e List.mem_cons_self), ih fun x hx => h x (List.mem_cons_of_mem _ hx)]
    rfl

theorem padBlock_shape (pos : Nat) : padBlock pos = [] ∨ ∃ k, k < 0x80 ∧ padBlock pos = [0x19, k] ++ List.replicate k 0 := by
  unfold padBlock
  simp only
  generalize hp : (if 0 < (4 - pos % 4) % 4 ∧ (4 - pos % 4) % 4 ≤ 2 then (4 - pos % 4) % 4 + 4 else (4 - pos % 4) % 4) = padlen
  have hle : padlen ≤ 6 := by subst hp; split <;> omega
  by_cases h : padlen > 2
  · exact .inr ⟨padlen - 2, by omega, by simp [h]⟩
  · exact .inl (by simp [h])

theorem names_sum_ge (names : List (List Nat)) :
    2 * names.length ≤ (names.map (fun n => 2 * (n.flatMap unitsOf).length + 2)).sum := by
  induction names with
  | nil => simp
  | cons nm rest ih => simp only [List.length_cons, List.map_cons, List.sum_cons]; omega

theorem namesBlock_length_ge (files : List FileEntry) (h : ∀ e ∈ files, e.filename.isSome = true) :
    2 * files.length ≤ (namesBlock files).length + 2 := by
  unfold namesBlock
  simp only [filterMap_names files h]
  split
  · rename_i hemp
    cases files with
    | nil => simp
    | cons a l => simp at hemp
  · simp only [List.length_append, List.length_cons, List.length_nil, names_bytes_length]
    have := names_sum_ge (files.map nameOf)
    simp only [List.length_map] at this
    omega

/-- the member lists whose FilesInfo section both readers are shown to read back -/
structure WFFiles (fi : FilesInfo) : Prop where
  named : ∀ e ∈ fi.files, e.filename.isSome = true
  scalar : ∀ e ∈ fi.files, ∀ c ∈ nameOf e, IsScalar c
  count : fi.files.length < 2 ^ 32
  mtimes : ∀ e ∈ fi.files, ∀ t, e.mtime = .val t → t < 256 ^ 8
  attrs : ∀ e ∈ fi.files, ∀ t, e.attributes = .val t → t < 256 ^ 4
  namesSize : ((fi.files.map nameOf).map (fun n => 2 * (n.flatMap unitsOf).length + 2)).sum + 1 < 2 ^ 64
  emptyFiles : (fi.files.map (·.emptystream)).any id = false → fi.emptyfiles.any id = false

/-- the EmptyStream property `FilesInfo.write` emits if some member has no stream -/
def esBlock (fi : FilesInfo) : Bytes :=
  if (fi.files.map (·.emptystream)).any id then
    [0x0E] ++ writeNumber (bitsToBytes fi.files.length) ++ writeBools (fi.files.map (·.emptystream)) false
  else []

/-- `FilesInfo.write` as a reader meets it: id, count, then the properties one after the other -/
theorem writeFilesInfo_eq (fi : FilesInfo) (pos : Nat)
    (hef : (fi.files.map (·.emptystream)).any id = false → fi.emptyfiles.any id = false) :
    ∃ q, writeFilesInfo true fi pos = [0x05] ++ (writeNumber fi.files.length ++ (esBlock fi ++ (padBlock q ++
      (namesBlock fi.files ++ (timesBlock true 0x14 (fi.files.map (·.mtime)) ++
        (attrsBlock true (fi.files.map (·.attributes)) ++ [0x00])))))) := by
  unfold writeFilesInfo esBlock
  by_cases hes : (fi.files.map (·.emptystream)).any id = true
  · exact ⟨_, by simp only [hes, if_true, List.append_assoc]; rfl⟩
  · exact ⟨_, by simp only [hes, hef (by simpa using hes), Bool.false_eq_true, if_false, List.append_nil, List.nil_append,
      List.append_assoc]; rfl⟩

theorem writeFilesInfo_head (fi : FilesInfo) (pos : Nat) :
    writeFilesInfo true fi pos = [0x05] ++ (writeFilesInfo true fi pos).drop 1 := by
  simp [writeFilesInfo]

theorem writeFilesInfo_length_ge (fi : FilesInfo) (pos : Nat) (h : ∀ e ∈ fi.files, e.filename.isSome = true) :
    2 * fi.files.length ≤ (writeFilesInfo true fi pos).length := by
  have h1 := namesBlock_length_ge fi.files h
  have h2 := timesBlock_length_ge 0x14 (fi.files.map (·.mtime))
  unfold writeFilesInfo
  simp only [List.length_append]
  omega

end SevenZ
