/- UTF-16 names: py7zr's unit loop reads back the units of any scalar values (`readUnits_units`, `utf16_roundtrip`), and
   the format description's decoder is the model's (`decodeUtf16Units_eq_decodeUnits`). -/
import SevenZ.Model.Utf16
import SevenZ.Spec.Format
namespace SevenZ
open Impl

theorem unitsToBytes_length (us : List Nat) : (unitsToBytes us).length = 2 * us.length := by
  induction us with
  | nil => rfl
  | cons u us ih => simp [unitsToBytes, ih]; omega

theorem readUnits_units (us : List Nat) (fuel : Nat) (tail : Bytes)
    (hu : ∀ u ∈ us, 0 < u ∧ u < 65536) (hf : us.length < fuel) :
    readUnits fuel (unitsToBytes us ++ 0 :: 0 :: tail) = (us, false, tail) := by
  induction us generalizing fuel with
  | nil =>
    cases fuel with
    | zero => simp at hf
    | succ f => simp [unitsToBytes, readUnits]
  | cons u us ih =>
    cases fuel with
    | zero => simp at hf
    | succ f =>
      have hu0 := hu u (by simp)
      have hne : ¬ (u % 256 = 0 ∧ u / 256 = 0) := fun h =>
        Nat.ne_of_gt hu0.1 (by rw [← Nat.mod_add_div u 256, h.1, h.2])
      simp only [unitsToBytes, List.cons_append, readUnits, hne, if_false]
      rw [ih f (fun x hx => hu x (by simp [hx])) (by simp at hf; omega)]
      simp [Nat.mod_add_div]

theorem unitsOf_ok (c : Nat) (hc : IsScalar c) : ∀ u ∈ unitsOf c, 0 < u ∧ u < 65536 := by
  obtain ⟨h0, h1, h2⟩ := hc
  intro u hu
  unfold unitsOf at hu
  split at hu
  · simp at hu; omega
  · simp at hu; rcases hu with h | h <;> omega

theorem units_ok (cs : List Nat) (hs : ∀ c ∈ cs, IsScalar c) : ∀ u ∈ cs.flatMap unitsOf, 0 < u ∧ u < 65536 :=
  fun u hu => (List.mem_flatMap.1 hu).elim fun c hc => unitsOf_ok c (hs c hc.1) u hc.2

theorem decode_unitsOf (c : Nat) (hc : IsScalar c) (rest : List Nat) :
    decodeUnits (unitsOf c ++ rest) = (decodeUnits rest).map (fun cs => c :: cs) := by
  obtain ⟨h0, h1, h2⟩ := hc
  unfold unitsOf
  split
  · rename_i hlt
    simp only [List.cons_append, List.nil_append]
    rw [decodeUnits.eq_def]
    have a : ¬ (0xD800 ≤ c ∧ c < 0xDC00) := by omega
    have b : ¬ (0xDC00 ≤ c ∧ c < 0xE000) := by omega
    simp only [a, b, if_false]
  · rename_i hge
    simp only [List.cons_append, List.nil_append]
    rw [decodeUnits.eq_def]
    -- `c - 0x10000` has twenty bits: ten to the high surrogate, ten to the low one
    generalize hx : c - 0x10000 = x
    have hx20 : x < 1024 * 1024 := by omega
    have a : (0xD800 ≤ 0xD800 + x / 1024 ∧ 0xD800 + x / 1024 < 0xDC00) :=
      ⟨Nat.le_add_right _ _, Nat.add_lt_add_left ((Nat.div_lt_iff_lt_mul (by decide)).2 hx20) 0xD800⟩
    have b : (0xDC00 ≤ 0xDC00 + x % 1024 ∧ 0xDC00 + x % 1024 < 0xE000) :=
      ⟨Nat.le_add_right _ _, Nat.add_lt_add_left (Nat.mod_lt _ (by decide)) 0xDC00⟩
    simp only [a, b, if_true, and_self]
    rw [Nat.add_sub_cancel_left, Nat.add_sub_cancel_left, Nat.add_assoc, Nat.div_add_mod', ← hx,
      Nat.add_sub_cancel' (Nat.le_of_not_lt hge)]

theorem decode_flatMap (cs : List Nat) (hs : ∀ c ∈ cs, IsScalar c) :
    decodeUnits (cs.flatMap unitsOf) = some cs := by
  induction cs with
  | nil => simp [decodeUnits]
  | cons c cs ih =>
    rw [List.flatMap_cons, decode_unitsOf c (hs c (by simp)), ih (fun x hx => hs x (by simp [hx]))]
    rfl

theorem utf16_roundtrip (cs : List Nat) (hs : ∀ c ∈ cs, IsScalar c)
    (hlen : (cs.flatMap unitsOf).length < maxLength) (tail : Bytes) :
    readUtf16 (writeUtf16 cs ++ tail) = some (cs, tail) := by
  have h1 : readUnits maxLength (writeUtf16 cs ++ tail) = (cs.flatMap unitsOf, false, tail) := by
    unfold writeUtf16
    rw [List.append_assoc]
    exact readUnits_units _ _ _ (units_ok cs hs) hlen
  unfold readUtf16
  rw [h1]
  simp [decode_flatMap cs hs]

theorem decodeUtf16Units_eq_decodeUnits : ∀ us : List Nat, Spec.decodeUtf16Units us = decodeUnits us
  | [] => by simp only [Spec.decodeUtf16Units, decodeUnits]
  | [u] => by simp only [Spec.decodeUtf16Units, decodeUnits, Option.map_some]
  | u :: l :: rest => by
    simp only [Spec.decodeUtf16Units, decodeUnits, decodeUtf16Units_eq_decodeUnits rest,
      decodeUtf16Units_eq_decodeUnits (l :: rest)]

theorem decodeUnits_length : ∀ (us cs : List Nat), decodeUnits us = some cs → us.length ≤ 2 * cs.length
  | [], _, _ => Nat.zero_le _
  | [u], cs, h => by
    cases cs with
    | nil => simp [decodeUnits] at h
    | cons c cs' => rw [List.length_cons (as := cs'), Nat.mul_add_one]; exact Nat.le_add_left 1 _
  | u :: l :: rest, cs, h => by
    simp only [decodeUnits] at h
    split at h
    · split at h
      · obtain ⟨cs', hr, rfl⟩ := Option.map_eq_some_iff.mp h
        rw [List.length_cons (as := cs'), Nat.mul_add_one]   -- two units, one character
        exact Nat.add_le_add_right (decodeUnits_length rest cs' hr) 2
      · cases h
    · split at h
      · cases h
      · obtain ⟨cs', hr, rfl⟩ := Option.map_eq_some_iff.mp h
        rw [List.length_cons (as := cs'), Nat.mul_add_one]   -- one unit, one character
        exact Nat.le_succ_of_le (Nat.succ_le_succ (decodeUnits_length (l :: rest) cs' hr))

theorem unit_of_bytes {lo hi : Nat} (hlo : lo < 256) (hhi : hi < 256) :
    (lo + 256 * hi) % 256 = lo ∧ (lo + 256 * hi) / 256 = hi ∧ lo + 256 * hi < 65536 ∧ (lo + 256 * hi = 0 → lo = 0 ∧ hi = 0) :=
  ⟨by rw [Nat.add_mul_mod_self_left, Nat.mod_eq_of_lt hlo],
   by rw [Nat.add_mul_div_left _ _ (by decide), Nat.div_eq_of_lt hlo, Nat.zero_add],
   by omega, fun h => by omega⟩

/-- the one clause of `splitNames` that consumes: a 16-bit unit, which ends the name if it is zero and joins it otherwise -/
theorem splitNames_unit (fuel lo hi : Nat) (rest : Bytes) (acc : List Nat) :
    Spec.splitNames (fuel + 1) (lo :: hi :: rest) acc =
      if lo + 256 * hi = 0 then
        match Spec.decodeUtf16Units acc.reverse with
        | none => .error "invalid UTF-16 in file name"
        | some cs => (Spec.splitNames fuel rest []).map (fun r => cs :: r)
      else Spec.splitNames fuel rest ((lo + 256 * hi) :: acc) := by
  rw [Spec.splitNames]; rfl

end SevenZ
