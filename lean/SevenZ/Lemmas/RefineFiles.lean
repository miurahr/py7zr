/-
Reader refinement, FilesInfo: the property loop.  On every FilesInfo the strict reader accepts (shorter than
2 * MAX_LENGTH bytes, so that no name exceeds `read_utf16`'s limit) the model of `FilesInfo._read` either returns
member records that agree with the strict reader's — flags, names (backslashes rewritten), times, attributes — and
stops at the same place, or raises (Anti / StartPos properties, which py7zr does not support).  It never succeeds
with different values: a lax `Refines` (Lemmas/Prs).
-/
import SevenZ.Lemmas.Refine
namespace SevenZ
open SevenZ.Impl SevenZ.Spec

/-- a slot as the strict reader records it (the same function as `slotOpt` of Lemmas/SpecProps) -/
def optOfSlot : Slot Nat → Option Nat
  | .val v => some v
  | _ => none

/-- a member record of py7zr's reader agrees with one of the strict reader (the EmptyFile / Anti flags, which py7zr
    keeps beside the list, are not compared) -/
def FileRel (sf : SFile) (fe : FileEntry) : Prop :=
  fe.emptystream = sf.emptyStream ∧ fe.filename = sf.name.map fixSlash ∧ optOfSlot fe.ctime = sf.ctime ∧
  optOfSlot fe.atime = sf.atime ∧ optOfSlot fe.mtime = sf.mtime ∧ optOfSlot fe.attributes = sf.attr

/-- the two member lists agree entry by entry -/
inductive FilesRel : List SFile → List FileEntry → Prop where
  | nil : FilesRel [] []
  | cons {sf fe sfs fes} (h : FileRel sf fe) (t : FilesRel sfs fes) : FilesRel (sf :: sfs) (fe :: fes)

theorem optOfSlot_slotOfOpt (v : Option Nat) : optOfSlot (slotOfOpt v) = v := by cases v <;> rfl

theorem FilesRel.replicate (n : Nat) : FilesRel (List.replicate n {}) (List.replicate n {}) := by
  induction n with
  | zero => exact .nil
  | succ n ih => exact .cons ⟨rfl, rfl, rfl, rfl, rfl, rfl⟩ ih

theorem FilesRel.zip_update {α} (fS : SFile → α → SFile) (fI : FileEntry → α → FileEntry)
    (hpt : ∀ sf fe v, FileRel sf fe → FileRel (fS sf v) (fI fe v)) :
    ∀ (sfs : List SFile) (fes : List FileEntry) (vals : List α), FilesRel sfs fes →
      FilesRel ((sfs.zip vals).map (fun (x, v) => fS x v)) ((fes.zip vals).map (fun (x, v) => fI x v))
  | [], [], _, _ => by simp; exact .nil
  | [], _ :: _, _, h => by cases h
  | _ :: _, [], _, h => by cases h
  | sf :: sfs, fe :: fes, [], _ => by simp; exact .nil
  | sf :: sfs, fe :: fes, v :: vs, h => by
    cases h with
    | cons h1 h2 =>
      simp only [List.zip_cons_cons, List.map_cons]
      exact .cons (hpt sf fe v h1) (FilesRel.zip_update fS fI hpt sfs fes vs h2)

theorem FilesRel.spreadBits (upd : SFile → Bool → SFile) (hpt : ∀ sf fe b, FileRel sf fe → FileRel (upd sf b) fe) :
    ∀ (sfs : List SFile) (fes : List FileEntry) (bits : List Bool), FilesRel sfs fes →
      FilesRel (Spec.spreadBits upd sfs bits) fes
  | [], [], _, _ => by simp [Spec.spreadBits]; exact .nil
  | [], _ :: _, _, h => by cases h
  | _ :: _, [], _, h => by cases h
  | sf :: sfs, fe :: fes, bits, h => by
    cases h with
    | cons h1 h2 =>
      simp only [Spec.spreadBits]
      split
      · cases bits with
        | nil => exact .cons h1 (FilesRel.spreadBits upd hpt sfs fes [] h2)
        | cons b bs => exact .cons (hpt sf fe b h1) (FilesRel.spreadBits upd hpt sfs fes bs h2)
      · exact .cons h1 (FilesRel.spreadBits upd hpt sfs fes bits h2)

theorem FilesRel.length_eq {sfs : List SFile} {fes : List FileEntry} (h : FilesRel sfs fes) : sfs.length = fes.length := by
  induction h with
  | nil => rfl
  | cons _ _ ih => simp [ih]

theorem FilesRel.flags {sfs : List SFile} {fes : List FileEntry} (h : FilesRel sfs fes) :
    fes.map (·.emptystream) = sfs.map (·.emptyStream) := by
  induction h with
  | nil => rfl
  | cons h1 _ ih => simp [ih, h1.1]

/-- a property body: the strict reader runs its sub-reader on exactly `size` bytes, which must be used up; py7zr reads
    `size` bytes into a buffer of its own, runs its sub-reader on that and does not look at what it leaves -/
theorem Refines.sized {lax : Prop} {Q Q₀ : Bytes → Prop} {α β α' β' : Type} {R : α → β → Prop} {R' : α' → β' → Prop}
    {size : Nat} {w : String} {sp : SP α} {ip : P β} {K : α → SP α'} {K' : β → P β'} (hQ : TailClosed Q)
    (hpre : ∀ {s}, Q s → Q₀ (s.take size))
    (hX : ∀ ⦃buf a⦄, Q₀ buf → sp buf = .ok (a, []) → (∃ b r', ip buf = .ok (b, r') ∧ R a b) ∨ (lax ∧ ∃ e, ip buf = .error e))
    (hK : ∀ a b, R a b → Refines lax Q R' (K a) (K' b)) :
    Refines lax Q R' (sSized size w sp >>= K) (readBytes size >>= fun buf => onBuffer buf ip >>= K') := by
  intro s a' r hq h
  obtain ⟨a, s₁, h₁, h₂⟩ := Prs.bind_inv h
  unfold sSized at h₁
  split at h₁
  · cases h₁
  cases hp : sp (s.take size) with
  | error e => rw [hp] at h₁; cases h₁
  | ok v =>
    obtain ⟨a₀, rest⟩ := v
    rw [hp] at h₁
    cases rest with
    | cons _ _ => cases h₁
    | nil =>
      cases h₁
      rw [Prs.bind_run (rfl : readBytes size s = .ok (s.take size, s.drop size))]
      rcases hX (hpre hq) hp with ⟨b, r', g, hr⟩ | ⟨hl, e, g⟩
      · rw [Prs.bind_run (show onBuffer (s.take size) ip (s.drop size) = .ok (b, s.drop size) by unfold onBuffer; rw [g])]
        exact hK a b hr (hQ.suffix hq (List.drop_suffix _ _)) h₂
      · exact .raised hl (e := e) (by simp only [Bind.bind, StateT.bind, Except.bind, onBuffer, g])

/-- a refinement, as `sized` wants it of the sub-readers -/
theorem Refines.onBuf {lax : Prop} {Q₀ : Bytes → Prop} {α β : Type} {R : α → β → Prop} {sp : SP α} {ip : P β}
    (h : Refines lax Q₀ R sp ip) ⦃buf : Bytes⦄ ⦃a : α⦄ (hq : Q₀ buf) (hs : sp buf = .ok (a, [])) :
    (∃ b r', ip buf = .ok (b, r') ∧ R a b) ∨ (lax ∧ ∃ e, ip buf = .error e) := by
  rcases h hq hs with ⟨b, g, hr, _⟩ | h
  · exact .inl ⟨b, _, g, hr⟩
  · exact .inr h

/-- whatever `ip` does is acceptable where nothing is claimed of its result -/
theorem Refines.onBuf_any {β : Type} (ip : P β) (buf : Bytes) {R : β → Prop} (h : ∀ b, R b) :
    (∃ b r', ip buf = .ok (b, r') ∧ R b) ∨ (True ∧ ∃ e, ip buf = .error e) := by
  cases h' : ip buf with
  | error e => exact .inr ⟨trivial, e, rfl⟩
  | ok v => exact .inl ⟨v.1, v.2, rfl, h _⟩

theorem Refines.readBytes_fail {Q : Bytes → Prop} {α β : Type} {R : α → β → Prop} {sp : SP α} {n : Nat} {e : Err} :
    Refines True Q R sp (readBytes n >>= fun _ => (Impl.fail e : P β)) :=
  fun _ _ _ _ _ => .raised True.intro rfl

theorem Inp.take {s : Bytes} (h : Inp s) (k : Nat) : Inp (s.take k) :=
  ⟨fun x hx => h.1 x (List.mem_of_mem_take hx), Nat.lt_of_le_of_lt (List.length_take_le' _ _) h.2⟩

theorem length_zip_map {α β γ} (f : α × β → γ) {l : List α} {vals : List β} (h : vals.length = l.length) :
    ((l.zip vals).map f).length = l.length := by
  rw [List.length_map, List.length_zip, h, Nat.min_self]

/-- what the property loop may assume of its input: bytes, below the limit of `read_utf16`, and fewer than py7zr's fuel -/
def LoopInp (fuelI : Nat) (s : Bytes) : Prop := (Inp s ∧ s.length < 2 * maxLength) ∧ s.length < fuelI

theorem LoopInp.tailClosed (fuelI : Nat) : TailClosed (LoopInp fuelI) := (TailClosed.inp.lt _).lt _

theorem LoopInp.inp {fuelI : Nat} {s : Bytes} (h : LoopInp fuelI s) : Inp s := h.1.1
theorem LoopInp.short {fuelI : Nat} {s : Bytes} (h : LoopInp fuelI s) : s.length < 2 * maxLength := h.1.2
theorem LoopInp.lt_fuel {fuelI : Nat} {s : Bytes} (h : LoopInp fuelI s) : s.length < fuelI := h.2

/-- the Names body on its buffer.  py7zr reads one name per member; that there are as many names the strict reader
    checks only afterwards, so nothing is claimed of py7zr's outcome when there are not -/
theorem sNamesBody_onBuf (files : List FileEntry) ⦃buf : Bytes⦄ ⦃names : List (List Nat)⦄
    (hb : Inp buf ∧ buf.length < 2 * maxLength) (h : sNamesBody buf = .ok (names, [])) :
    (∃ out r', (do let ext ← read1; if ext = some 0 then setNames files else Impl.fail .unsupported : P _) buf = .ok (out, r') ∧
      (names.length = files.length → out = (files.zip names).map fun x => { x.1 with filename := some (fixSlash x.2) })) ∨
    (True ∧ ∃ e, (do let ext ← read1; if ext = some 0 then setNames files else Impl.fail .unsupported : P _) buf = .error e) := by
  by_cases hnl : names.length = files.length
  · refine .inl ⟨_, [], ?_, fun _ => rfl⟩
    unfold sNamesBody at h
    obtain ⟨ext, b1, a1, h⟩ := Prs.bind_inv h
    obtain ⟨hext, h⟩ := Prs.guard_inv h
    obtain ⟨_, g1, rfl, q1⟩ := (sByte_read1 (lax := False) (TailClosed.inp.lt _) _).run hb a1
    obtain ⟨_, _, a2, h⟩ := Prs.bind_inv h
    cases a2
    obtain ⟨_, _, a3, h⟩ := Prs.bind_inv h
    cases a3
    cases hsn : splitNames (b1.length + 1) b1 [] with
    | error e => rw [hsn] at h; exact (Prs.sfail_inv h).elim
    | ok ns =>
      rw [hsn] at h
      cases Prs.pure_inv h
      rw [Prs.bind_run g1, if_pos (congrArg some (Decidable.not_not.mp hext))]
      exact setNames_run files names _ b1 q1.1.1 hnl.symm (.inl q1.2) hsn
  · exact Refines.onBuf_any _ _ fun _ h => (hnl h).elim

theorem sFileProps_r (fuel : Nat) : ∀ (fuelI n : Nat) (sfs : List SFile) (neS : Nat) (seen : Bool) (fi : FilesInfo) (neI : Nat),
    FilesRel sfs fi.files → fi.files.length = n →
    Refines True (LoopInp fuelI) (fun sfs' fi' => FilesRel sfs' fi'.files) (sFileProps fuel n sfs neS seen)
      (readFileProps fuelI n fi neI) := by
  induction fuel with
  | zero =>
    intro _ _ _ _ _ _ _ _ _
    simp only [sFileProps]
    exact .sfail
  | succ fuel ih =>
    rintro (_ | fI) _ sfs neS seen fi neI hrel rfl
    · exact fun _ _ _ hq => absurd hq.lt_fuel (Nat.not_lt_zero _)
    have hQ := LoopInp.tailClosed fI
    have hQ₀ := TailClosed.inp.lt (2 * maxLength)
    have hpre : ∀ {size : Nat} {s : Bytes}, LoopInp fI s → Inp (s.take size) ∧ (s.take size).length < 2 * maxLength :=
      fun h => ⟨h.inp.take _, Nat.lt_of_le_of_lt (List.length_take_le' _ _) h.short⟩
    have ih := ih fI fi.files.length
    unfold sFileProps readFileProps
    -- the id byte by hand: after it the input is shorter than py7zr's remaining fuel, which the rest assumes
    intro s sfs' r hq h
    obtain ⟨id, s₁, h₁, h₂⟩ := Prs.bind_inv h
    unfold sByte at h₁
    cases s <;> cases h₁
    have hq₁ : LoopInp fI s₁ := ⟨((LoopInp.tailClosed _).suffix hq (List.suffix_cons _ _)).1, Nat.lt_of_succ_lt_succ hq.lt_fuel⟩
    rw [Prs.bind_run (rfl : read1 (id :: s₁) = .ok (some id, s₁))]
    refine Or.imp (fun ⟨b, g, hr, hq'⟩ => ⟨b, g, hr, hq'.1, Nat.lt_succ_of_lt hq'.lt_fuel⟩) (fun e => e)
      ((?_ : Refines True (LoopInp fI) (fun sfs' fi' => FilesRel sfs' fi'.files) _ _) hq₁ h₂)
    refine .ite Option.some_inj.symm (fun _ => .pure hrel) fun _ => .bind_eq (sNumber_r hQ _) fun size =>
      .ite_right (fun _ => .fail) fun _ => .ite_right (fun h19 => ?_) fun h19 => ?_
    · -- Dummy
      cases h19
      exact .bind (sTake_r hQ _ _) fun _ _ _ => .guard_left fun _ => ih _ _ _ _ _ hrel rfl
    -- a time or attribute vector: the body by `sOptVector_r`, then both member lists updated entry by entry
    have vec : ∀ {m : Nat} {w : String} {ip : P (List FileEntry)} {uS : SFile → Option Nat → SFile}
        {uI : FileEntry → Slot Nat → FileEntry},
        Refines True (fun s => Inp s ∧ s.length < 2 * maxLength)
          (fun vals out => out = (fi.files.zip vals).map (fun x => uI x.1 (slotOfOpt x.2)) ∧ vals.length = fi.files.length)
          (sOptVector fi.files.length m w) ip →
        (∀ sf fe v, FileRel sf fe → FileRel (uS sf v) (uI fe (slotOfOpt v))) →
        Refines True (LoopInp fI) (fun sfs' fi' => FilesRel sfs' fi'.files)
          (do let v ← sSized size w (sOptVector fi.files.length m w)
              sFileProps fuel fi.files.length (setList sfs v uS) neS seen)
          (readBytes size >>= fun buf => do
            let files ← onBuffer buf ip
            readFileProps fI fi.files.length { fi with files } neI) := by
      intro m w ip uS uI hip hpt
      refine .sized hQ hpre hip.onBuf ?_
      rintro v _ ⟨rfl, hvl⟩
      exact ih _ _ _ _ _ (FilesRel.zip_update uS (fun f v => uI f (slotOfOpt v)) hpt sfs fi.files v hrel) (length_zip_map _ hvl)
    split   -- the arms of the `match id` in `Spec.sFileProps`, in its order
    · -- EmptyStream
      refine .sized hQ hpre (sBitField_r hQ₀ _ _).onBuf ?_
      rintro _ bits ⟨rfl, hl⟩
      exact ih _ _ _ _ _ (FilesRel.zip_update (fun f b => { f with emptyStream := b }) (fun f b => { f with emptystream := b })
            (fun sf fe v ⟨_, hn, hc, ha, hm, hat⟩ => ⟨rfl, hn, hc, ha, hm, hat⟩) sfs fi.files bits hrel)
          (length_zip_map _ hl)
    · -- EmptyFile: py7zr counts the empty streams itself; whatever it reads or raises is beside the member records
      refine .guard_left fun _ =>
        .sized (R := fun _ _ => True) (Q₀ := fun s => Inp s ∧ s.length < 2 * maxLength) hQ hpre (fun buf _ _ _ => ?_) fun bits ef _ => ?_
      · exact Refines.onBuf_any _ _ fun _ => trivial
      · exact ih _ _ _ _ _ (FilesRel.spreadBits (fun f b => { f with emptyFile := b }) (fun sf fe b hr => hr) sfs fi.files bits hrel) rfl
    · -- Anti
      exact .readBytes_fail
    · -- Names
      refine .sized hQ hpre (sNamesBody_onBuf fi.files) fun names files hfiles => .guard_left fun hnl => ?_
      rw [hfiles (Decidable.not_not.mp hnl)]
      exact ih _ _ _ _ _ (FilesRel.zip_update (fun f v => { f with name := some v }) (fun f cs => { f with filename := some (fixSlash cs) })
          (fun sf fe v ⟨he, _, hc, ha, hm, hat⟩ => ⟨he, rfl, hc, ha, hm, hat⟩) sfs fi.files names hrel)
        (length_zip_map _ (Decidable.not_not.mp hnl))
    · -- CTime, ATime, MTime, Attributes: the slot that changes is related by `optOfSlot_slotOfOpt`, the others stay
      refine vec (uI := setTime .c) (sOptVector_times_r hQ₀ .c _ _) fun sf fe v ⟨he, hn, _, ha, hm, hat⟩ => ?_
      exact ⟨he, hn, optOfSlot_slotOfOpt v, ha, hm, hat⟩
    · refine vec (uI := setTime .a) (sOptVector_times_r hQ₀ .a _ _) fun sf fe v ⟨he, hn, hc, _, hm, hat⟩ => ?_
      exact ⟨he, hn, hc, optOfSlot_slotOfOpt v, hm, hat⟩
    · refine vec (uI := setTime .m) (sOptVector_times_r hQ₀ .m _ _) fun sf fe v ⟨he, hn, hc, ha, _, hat⟩ => ?_
      exact ⟨he, hn, hc, ha, optOfSlot_slotOfOpt v, hat⟩
    · refine vec (uI := fun f v => { f with attributes := v }) (sOptVector_attrs_r hQ₀ _ _) fun sf fe v ⟨he, hn, hc, ha, hm, _⟩ => ?_
      exact ⟨he, hn, hc, ha, hm, optOfSlot_slotOfOpt v⟩
    · exact absurd rfl h19   -- Dummy was split off above
    · -- StartPos
      exact .readBytes_fail
    · exact .sfail

/-- either outcome of py7zr's loop that the theorem allows -/
def SafeOutcome (res : Except Err (FilesInfo × Bytes)) (sfs' : List SFile) (r : Bytes) : Prop :=
  (∃ fi', res = .ok (fi', r) ∧ FilesRel sfs' fi'.files) ∨ (∃ e, res = .error e)

theorem sFileProps_safe : ∀ (fuel n : Nat) (sfs : List SFile) (neS : Nat) (seen : Bool) (s : Bytes) (sfs' : List SFile) (r : Bytes),
    Inp s → s.length < 2 * maxLength → sFileProps fuel n sfs neS seen s = .ok (sfs', r) →
    ∀ (fuelI : Nat) (fi : FilesInfo) (neI : Nat), s.length < fuelI → FilesRel sfs fi.files → sfs.length = n →
      SafeOutcome (readFileProps fuelI n fi neI s) sfs' r := by
  intro fuel n sfs neS seen s sfs' r hi hshort h fuelI fi neI hf hrel hn
  exact (sFileProps_r fuel fuelI n sfs neS seen fi neI hrel ((FilesRel.length_eq hrel).symm.trans hn) ⟨⟨hi, hshort⟩, hf⟩ h).safe

/-- what the header theorems assume of the input: bytes, no more than py7zr is told (`total`), below the name limit -/
def HeaderInp (total : Nat) (s : Bytes) : Prop := (Inp s ∧ s.length ≤ total) ∧ s.length < 2 * maxLength

theorem HeaderInp.tailClosed (total : Nat) : TailClosed (HeaderInp total) := (TailClosed.inp.le total).lt _

theorem HeaderInp.inp {total : Nat} {s : Bytes} (h : HeaderInp total s) : Inp s := h.1.1
theorem HeaderInp.le_total {total : Nat} {s : Bytes} (h : HeaderInp total s) : s.length ≤ total := h.1.2
theorem HeaderInp.short {total : Nat} {s : Bytes} (h : HeaderInp total s) : s.length < 2 * maxLength := h.2

/-- FilesInfo as a whole: the member count passes py7zr's guard, then the loop -/
theorem sFilesInfo_acc {total : Nat} {s : Bytes} {sfs : List SFile} {r : Bytes} (hq : HeaderInp total s)
    (h : sFilesInfo s = .ok (sfs, r)) :
    Accepts True (HeaderInp total) (fun sfs fi => FilesRel sfs fi.files) (readFilesInfo total s) sfs r := by
  unfold sFilesInfo at h
  obtain ⟨m, s1, q1, h⟩ := Prs.bind_inv h
  obtain ⟨_, _, q2, h⟩ := Prs.bind_inv h
  cases q2
  obtain ⟨hguard, h⟩ := Prs.guard_inv h
  obtain ⟨n, g1, rfl, i1⟩ := (sNumber_r (HeaderInp.tailClosed total) _).run hq q1
  -- the strict reader's bound on the count (eight per byte left, and eight) is within py7zr's (eight per header byte)
  have hcount : n ≤ total * 8 := calc
    n ≤ s1.length * 8 + 8 := Nat.not_lt.mp hguard
    _ = (s1.length + 1) * 8 := (Nat.succ_mul _ _).symm
    _ ≤ total * 8 := Nat.mul_le_mul_right 8 (Nat.le_trans (sNumber_post q1) hq.le_total)
  unfold readFilesInfo
  rw [Prs.bind_run g1, if_neg (Nat.not_lt.mpr hcount), Prs.bind_run (rfl : (get : P Bytes) s1 = .ok (s1, s1))]
  rcases sFileProps_r _ _ n _ 0 false { files := List.replicate n {} } 0 (FilesRel.replicate n) (by simp)
      ⟨⟨i1.inp, i1.short⟩, Nat.lt_succ_self _⟩ h with
    ⟨fi, g, hr, hq'⟩ | h
  · exact .ok g hr ⟨⟨hq'.inp, Nat.le_trans (Nat.le_of_lt_succ hq'.lt_fuel) i1.le_total⟩, hq'.short⟩
  · exact .inr h

theorem sFilesInfo_safe {total : Nat} {s : Bytes} {sfs : List SFile} {r : Bytes} (hi : Inp s) (hst : s.length ≤ total)
    (hshort : s.length < 2 * maxLength) (h : sFilesInfo s = .ok (sfs, r)) :
    (∃ fi, readFilesInfo total s = .ok (fi, r) ∧ FilesRel sfs fi.files) ∨ (∃ e, readFilesInfo total s = .error e) :=
  (sFilesInfo_acc ⟨⟨hi, hst⟩, hshort⟩ h).safe

/-- what the two readers' header objects have in common -/
def HeaderRel (sh : SHeader) (H : Header) : Prop :=
  (∀ ss, sh.streams = some ss → ∃ st, H.mainStreams = some st ∧
    (∀ sp, ss.pack = some sp → ∃ ip, st.packinfo = some ip ∧ ip.packpos = sp.packpos ∧ ip.packsizes = sp.sizes) ∧
    st.folders.getD [] = ss.folders.map folderOf ∧
    (∀ x, st.substreams = some x → x.numUnpack = ss.numUnpack ∧
      (x.unpacksizes = some ss.subSizes ∨ (x.unpacksizes = none ∧ ss.numUnpack.any (· > 1) = false))) ∧
    (st.substreams = none → ss.numUnpack = ss.folders.map (fun _ => 1))) ∧
  (sh.streams = none → H.mainStreams = none) ∧
  (sh.hasFiles = true → ∃ fi, H.filesInfo = some fi ∧ FilesRel sh.files fi.files) ∧
  (sh.hasFiles = false → H.filesInfo = none)

theorem sHeaderBody_safe {total : Nat} {s : Bytes} {sh : SHeader} {r : Bytes} (hi : Inp s) (hst : s.length ≤ total)
    (hshort : s.length < 2 * maxLength)
    (hone : ∀ ss, sh.streams = some ss → ∀ f ∈ ss.folders, OneOut f)
    (h : sHeaderBody s = .ok (sh, r)) :
    (∃ H, readHeaderBody total s = .ok (H, r) ∧ HeaderRel sh H) ∨ (∃ e, readHeaderBody total s = .error e) := by
  have hQ := HeaderInp.tailClosed total
  -- the strict reader's run: the id byte, two sections, the END id, nothing after it
  unfold sHeaderBody at h
  obtain ⟨id1, s1, q1, h⟩ := Prs.bind_inv h
  obtain ⟨⟨streams, id2⟩, s2, q2, h⟩ := Prs.bind_inv h
  obtain ⟨⟨files, hasF, id3⟩, s3, q3, h⟩ := Prs.bind_inv h
  dsimp only at q3 h
  obtain ⟨hend, h⟩ := Prs.guard_inv h
  obtain ⟨rest, s4, q4, h⟩ := Prs.bind_inv h
  obtain ⟨rfl, rfl⟩ : s3 = rest ∧ s3 = s4 := by cases q4; exact ⟨rfl, rfl⟩
  obtain ⟨_, h⟩ := Prs.guard_inv h
  obtain ⟨rfl, rfl⟩ : sh = ⟨streams, files, hasF⟩ ∧ r = s3 := by cases Prs.pure_inv h; exact ⟨rfl, rfl⟩
  suffices Accepts True (HeaderInp total) HeaderRel (readHeaderBody total s) ⟨streams, files, hasF⟩ r from this.safe
  unfold readHeaderBody
  refine Refines.step (sByte_read1 hQ _) ⟨⟨hi, hst⟩, hshort⟩ q1 ?_
  rintro _ rfl i1
  have sec1 : Accepts True (HeaderInp total) (fun (x : Option SStreams × Nat) (y : Option Streams × Option Nat) => y.2 = some x.2 ∧
      (x.1 = none → y.1 = none) ∧ ∀ ss, x.1 = some ss → ∃ st, y.1 = some st ∧ StreamsRel ss st)
      ((if some id1 = some 0x04 then (do
          let s ← readStreams total
          let pid ← read1
          pure (some s, pid)) else (pure (none, some id1) : P (Option Streams × Option Nat))) s1) (streams, id2) s2 := by
    by_cases h4 : id1 = 0x04
    · rw [if_pos h4] at q2
      rw [if_pos (congrArg some h4)]
      obtain ⟨ss, t1, a1, q2⟩ := Prs.bind_inv q2
      obtain ⟨id, t2, a2, q2⟩ := Prs.bind_inv q2
      cases Prs.pure_inv q2
      refine (sStreams_acc hQ (fun h => h.inp.2) (fun h => h.le_total) i1 (hone ss rfl) a1).bind ?_
      rintro st hr j1
      refine Refines.step (sByte_read1 hQ _) j1 a2 ?_
      rintro _ rfl j2
      exact .ok rfl ⟨rfl, fun e => (Option.some_ne_none _ e).elim, fun _ e => ⟨st, rfl, Option.some.inj e ▸ hr⟩⟩ j2
    · rw [if_neg h4] at q2
      rw [if_neg (mt Option.some_inj.mp h4)]
      cases Prs.pure_inv q2
      exact .ok rfl ⟨rfl, fun _ => rfl, fun _ e => (Option.some_ne_none _ e.symm).elim⟩ i1
  refine sec1.bind ?_
  rintro ⟨mso, _⟩ ⟨rfl, hmn, hms⟩ i2
  dsimp only at hmn hms ⊢
  have sec2 : Accepts True (HeaderInp total) (fun (x : List SFile × Bool × Nat) (y : Option FilesInfo × Option Nat) => y.2 = some x.2.2 ∧
      (x.2.1 = false → y.1 = none) ∧ (x.2.1 = true → ∃ fi, y.1 = some fi ∧ FilesRel x.1 fi.files))
      ((if some id2 = some 0x05 then (do
          let f ← readFilesInfo total
          let pid ← read1
          pure (some f, pid)) else (pure (none, some id2) : P (Option FilesInfo × Option Nat))) s2) (files, hasF, id3) r := by
    by_cases h5 : id2 = 0x05
    · rw [if_pos h5] at q3
      rw [if_pos (congrArg some h5)]
      obtain ⟨fl, t1, a1, q3⟩ := Prs.bind_inv q3
      obtain ⟨id, t2, a2, q3⟩ := Prs.bind_inv q3
      cases Prs.pure_inv q3
      refine (sFilesInfo_acc i2 a1).bind ?_
      rintro fi hr j1
      refine Refines.step (sByte_read1 hQ _) j1 a2 ?_
      rintro _ rfl j2
      exact .ok rfl ⟨rfl, fun e => (Bool.false_ne_true e.symm).elim, fun _ => ⟨fi, rfl, hr⟩⟩ j2
    · rw [if_neg h5] at q3
      rw [if_neg (mt Option.some_inj.mp h5)]
      cases Prs.pure_inv q3
      exact .ok rfl ⟨rfl, fun _ => rfl, fun e => (Bool.false_ne_true e).elim⟩ i2
  refine sec2.bind ?_
  rintro ⟨fio, _⟩ ⟨rfl, hfn, hfs⟩ i3
  dsimp only at hfn hfs ⊢
  rw [if_neg (mt (mt (congrArg some)) hend)]
  refine .ok rfl ⟨fun ss e => ?_, hmn, hfs, hfn⟩ i3
  -- `HeaderRel` keeps four of the five clauses of `StreamsRel`
  obtain ⟨st, e', c1, _, c3, c4, c5⟩ := hms ss e
  exact ⟨st, e', c1, c3, c4, c5⟩

/-- what a successful `Spec.readTop` read (cf. `readNextHeader_inv`): nothing, or the id byte and then its production
    on the rest — with nothing behind an EncodedHeader record -/
theorem readTop_inv {buf : Bytes} {top : Top} (h : readTop buf = .ok top) :
    (buf = [] ∧ top = .empty) ∨
    (∃ rest sh r, buf = 0x01 :: rest ∧ sHeaderBody rest = .ok (sh, r) ∧ top = .raw sh) ∨
    (∃ rest ss, buf = 0x17 :: rest ∧ sStreams rest = .ok (ss, []) ∧ top = .encoded ss) := by
  unfold readTop at h
  split at h
  · cases h; exact .inl ⟨rfl, rfl⟩
  · rename_i rest
    cases hr : sHeaderBody rest <;> rw [hr] at h <;> cases h
    exact .inr (.inl ⟨rest, _, _, rfl, hr, rfl⟩)
  · rename_i rest
    cases hr : sStreams rest with
    | error e => rw [hr] at h; cases h
    | ok v =>
      obtain ⟨ss, r⟩ := v
      cases r <;> rw [hr] at h <;> cases h
      exact .inr (.inr ⟨rest, _, rfl, hr, rfl⟩)
  · cases h

end SevenZ
