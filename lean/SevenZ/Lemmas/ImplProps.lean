/-
The primitives of py7zr's reader model (`P`) as `Parses` facts on what the writer model emits.
-/
import SevenZ.Model.Header
import SevenZ.Lemmas.Number
import SevenZ.Lemmas.BoolVec
import SevenZ.Lemmas.Parses
namespace SevenZ
open Impl

theorem P.bind_err {α β} {x : P α} {f : α → P β} {s : Bytes} {e : Err} (h : x s = .error e) :
    (x >>= f) s = .error e := by
  simp [bind, StateT.bind, Except.bind, h]

theorem read1_parses (b : Nat) : Parses read1 [b] (some b) := fun _ => rfl

theorem readByte_parses (b : Nat) : Parses readByte [b] b := fun _ => rfl

theorem pNumber_parses {v : Nat} (hv : v < 2 ^ 64) : Parses pNumber (writeNumber v) v :=
  .of_ok fun rest => by simp [pNumber, number_roundtrip v hv rest]

theorem readBytes_parses {n : Nat} (a : Bytes) (hn : a.length = n) : Parses (readBytes n) a a :=
  .of_ok fun rest => by simp [readBytes, ← hn]

theorem pBools_parses {n : Nat} (bs : List Bool) (ad : Bool) (hn : bs.length = n) :
    Parses (pBools n ad) (writeBools bs ad) bs :=
  .of_ok fun rest => by simp [pBools, ← hn, bools_roundtrip]

theorem pFixed_parses {v k : Nat} (hv : v < 256 ^ k) : Parses (pFixed k) (leBytes v k) v :=
  .of_ok fun rest => by
    have hlen := leBytes_length v k
    unfold pFixed
    rw [if_neg (by simp [hlen]), List.take_left' hlen, List.drop_left' hlen, ofLE_leBytes_lt v k hv]

theorem repeatP_parses {α β} {p : P β} {enc : α → Bytes} {dec : α → β} {n : Nat} {xs : List α}
    (hn : xs.length = n) (h : ∀ x ∈ xs, Parses p (enc x) (dec x)) :
    Parses (repeatP n p) (xs.flatMap enc) (xs.map dec) :=
  ParsesTo.replicateM (rep := (repeatP · p)) rfl (fun _ => rfl) hn h

theorem pNumbers_parses {n : Nat} {xs : List Nat} (hn : xs.length = n) (hv : ∀ v ∈ xs, v < 2 ^ 64) :
    Parses (repeatP n pNumber) (xs.flatMap writeNumber) xs :=
  (repeatP_parses (dec := id) hn fun v h => pNumber_parses (hv v h)).of_val (List.map_id _)

/-- `io.BytesIO(fp.read(size))`: the sub-parser must read the property's bytes, all of them here -/
theorem onBuffer_parses {α} {p : P α} {buf : Bytes} {v : α} (h : Parses p buf v) : Parses (onBuffer buf p) [] v :=
  .of_ok fun rest => by simp [onBuffer, h.run_nil]

end SevenZ
