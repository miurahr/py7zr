/-
What py7zr's writer emits for the StreamsInfo section and around it, as any reader meets it: the
records it can hold (`WFPack`, `WFCoder`, `WFFolder`, chains of simple coders), the bytes of each
`write` laid out in reading order with the property ids made explicit, and the list facts that
relate its digest layouts.  Nothing here mentions a reader.
-/
import SevenZ.Model.Header
namespace SevenZ
open Impl

/-- the hypotheses under which `PackInfo.write` output is well-formed -/
structure WFPack (p : PackInfo) : Prop where
  pos : p.packpos < 2 ^ 64
  n : p.numstreams < 2 ^ 64
  sizes : ∀ v ∈ p.packsizes, v < 2 ^ 64
  defined : p.digestdefined.foldl (· || ·) p.enableDigests = true → p.digestdefined.length = p.numstreams
  crcs : ∀ c ∈ p.crcs, c < 256 ^ 4

/-- `PackInfo.write`, when it does not raise, has checked the counts and emitted the id 0x06 and
    then, in the order a reader meets them: position, count, the Size property, the id of what
    follows (Digests or END), and the digests with their END if there are any -/
theorem writePackInfo_some {p : PackInfo} {bytes : Bytes} (hw : writePackInfo p = some bytes) :
    p.numstreams = p.packsizes.length ∧
    (p.digestdefined.foldl (· || ·) p.enableDigests = true → p.crcs.length = p.numstreams ∧ p.numstreams ≤ p.digestdefined.length) ∧
    bytes = [0x06] ++ (writeNumber p.packpos ++ (writeNumber p.numstreams ++ ([0x09] ++ ((p.packsizes.flatMap writeNumber ++
      [if p.digestdefined.foldl (· || ·) p.enableDigests = true then 0x0A else 0x00]) ++
       (if p.digestdefined.foldl (· || ·) p.enableDigests = true then
          writeBools p.digestdefined true ++
          (((List.range p.numstreams).filter (fun i => p.digestdefined.getD i false)).flatMap
            (fun i => leBytes (p.crcs.getD i 0) 4) ++ [0x00])
        else []))))) := by
  unfold writePackInfo at hw
  by_cases h1 : p.numstreams ≠ p.packsizes.length
  · simp [h1] at hw
  refine ⟨Decidable.not_not.1 h1, ?_⟩
  by_cases hen : p.digestdefined.foldl (· || ·) p.enableDigests = true
  · by_cases h2 : p.crcs.length ≠ p.numstreams
    · simp [h1, hen, h2] at hw
    by_cases h3 : p.digestdefined.length < p.numstreams
    · simp [h1, hen, h2, h3] at hw
    simp only [h1, hen, h2, h3, if_false, if_true, Option.some.injEq] at hw
    exact ⟨fun _ => ⟨Decidable.not_not.1 h2, Nat.le_of_not_lt h3⟩, by simp [← hw, hen]⟩
  · simp only [h1, hen, Bool.false_eq_true, if_false, Option.some.injEq] at hw
    exact ⟨fun h => absurd h hen, by simp [← hw, hen]⟩

theorem writePackInfo_head {p : PackInfo} {b : Bytes} (h : writePackInfo p = some b) : b = [0x06] ++ b.drop 1 := by
  obtain ⟨-, -, rfl⟩ := writePackInfo_some h; rfl

/-- a coder record the grammar can carry: id of at most 15 bytes, stream counts and property
    length representable as NUMBER -/
structure WFCoder (c : Coder) : Prop where
  idlen : c.method.length < 16
  nin : c.numIn < 2 ^ 64
  nout : c.numOut < 2 ^ 64
  plen : ∀ p, c.props = some p → p.length < 2 ^ 64

/-- the flag byte of a coder record: size of the id in the low four bits, bit 4 "not simple", bit 5 "has properties" -/
def flagByte (idSize : Nat) (simple hasProps : Bool) : Nat :=
  (idSize &&& 0x0F) ||| (if simple then 0 else 0x10) ||| (if hasProps then 0x20 else 0)

def coderFlag (c : Coder) : Nat := flagByte c.method.length (isSimple c) c.props.isSome

/-- the bytes `Folder.write` emits for one coder -/
def coderBytes (c : Coder) : Bytes :=
  [coderFlag c] ++ c.method.take (c.method.length &&& 0x0F) ++
  (if isSimple c then [] else writeNumber c.numIn ++ writeNumber c.numOut) ++
  (match c.props with
   | none => []
   | some p => writeNumber p.length ++ p)

/-- the flag byte taken apart as the format description does: sixteen id sizes times four flag combinations -/
theorem flag_decode : ∀ k, k < 16 → ∀ (a b : Bool),
    flagByte k a b < 0x40 ∧ flagByte k a b % 16 = k ∧
    (flagByte k a b / 16 % 2 = 1 ↔ a = false) ∧ (flagByte k a b / 32 % 2 = 1 ↔ b = true) := by
  decide +kernel

theorem and15_of_lt (n : Nat) (h : n < 16) : n &&& 0x0F = n :=
  Nat.and_two_pow_sub_one_of_lt_two_pow (n := 4) h

theorem coderFlag_spec (c : Coder) (h : c.method.length < 16) :
    coderFlag c < 0x40 ∧ coderFlag c % 16 = c.method.length ∧
    ((coderFlag c / 16 % 2 = 1) ↔ isSimple c = false) ∧ ((coderFlag c / 32 % 2 = 1) ↔ c.props.isSome = true) :=
  flag_decode c.method.length h (isSimple c) c.props.isSome

def totIn (f : Folder) : Nat := (f.coders.map (·.numIn)).sum

def totOut (f : Folder) : Nat := (f.coders.map (·.numOut)).sum

/-- the packed streams of a folder as the format defines them: with exactly one packed stream
    it is the (first) input that no bind pair feeds and nothing is stored (py7zr's writer
    leaves `packed_indices` empty then); otherwise the stored index list -/
def packedOf (f : Folder) : List Nat :=
  if totIn f - (totOut f - 1) = 1 then
    match (List.range (totIn f)).find? (fun i => !(f.bindpairs.any (fun p => p.1 = i))) with
    | some i => [i]
    | none => []
  else f.packedIndices

structure WFFolder (f : Folder) : Prop where
  ncoders : 0 < f.coders.length ∧ f.coders.length ≤ 32
  coders : ∀ c ∈ f.coders, WFCoder c
  outPos : 0 < totOut f
  nbind : f.bindpairs.length = totOut f - 1
  bindRange : ∀ b ∈ f.bindpairs, b.1 < totIn f ∧ b.2 < totOut f ∧ b.1 < 2 ^ 64 ∧ b.2 < 2 ^ 64
  inGe : totOut f - 1 ≤ totIn f
  packed : if totIn f - (totOut f - 1) = 1
    then ((List.range (totIn f)).find? (fun i => !(f.bindpairs.any (fun p => p.1 = i)))).isSome = true
    else f.packedIndices.length = totIn f - (totOut f - 1) ∧ ∀ i ∈ f.packedIndices, i < 2 ^ 64
  nsizes : f.unpacksizes.length = totOut f
  sizes : ∀ v ∈ f.unpacksizes, v < 2 ^ 64

theorem writeFolder_eq (f : Folder) :
    writeFolder f = writeNumber f.coders.length ++ f.coders.flatMap coderBytes ++
      f.bindpairs.flatMap (fun b => writeNumber b.1 ++ writeNumber b.2) ++
      (if totIn f > totOut f then f.packedIndices.flatMap writeNumber else []) := rfl

/-- `UnpackInfo.write` as a reader meets it (folder CRCs are never written): ids 0x07 and 0x0B, count, the
    "external" byte, the folders, 0x0C, one size per output stream, END -/
theorem writeUnpackInfo_eq (folders : List Folder) :
    writeUnpackInfo folders = [0x07] ++ ([0x0B] ++ (writeNumber folders.length ++ ([0x00] ++ (folders.flatMap writeFolder ++
      ([0x0C] ++ (folders.flatMap (fun f => f.unpacksizes.flatMap writeNumber) ++ [0x00])))))) := by
  simp [writeUnpackInfo]

theorem writeUnpackInfo_head (folders : List Folder) : writeUnpackInfo folders = [0x07] ++ (writeUnpackInfo folders).drop 1 := by
  rw [writeUnpackInfo_eq]; rfl

/-- what `SubstreamsInfo.write` emits for the first folder's group and for the rest -/
theorem subSizesToWrite_cons {n : Nat} {ns sizes l : List Nat} (hlen : n ≤ sizes.length)
    (hw : subSizesToWrite (n :: ns) sizes = some l) :
    ∃ r, subSizesToWrite ns (sizes.drop n) = some r ∧ l = (sizes.take n).dropLast ++ r := by
  rw [subSizesToWrite, if_neg (by omega)] at hw
  cases hr : subSizesToWrite ns (sizes.drop n) with
  | none => simp [hr] at hw
  | some r => exact ⟨r, rfl, by simpa [hr] using hw.symm⟩

/-- a non-empty group: all but its last size are written, the last is what is left of the sum -/
theorem take_dropLast {n : Nat} {sizes : List Nat} (hlen : n ≤ sizes.length) (h0 : n ≠ 0) :
    (sizes.take n).dropLast.length = n - 1 ∧ (sizes.take n).dropLast.sum ≤ (sizes.take n).sum ∧
      (sizes.take n).dropLast ++ [(sizes.take n).sum - (sizes.take n).dropLast.sum] = sizes.take n := by
  have hne : sizes.take n ≠ [] := List.ne_nil_of_length_pos (by rw [List.length_take]; omega)
  have hg := List.dropLast_concat_getLast hne
  have hsum := congrArg List.sum hg
  rw [List.sum_append_nat, List.sum_singleton] at hsum
  refine ⟨by rw [List.length_dropLast, List.length_take, Nat.min_eq_left hlen], hsum ▸ Nat.le_add_right _ _, ?_⟩
  rw [← hsum, Nat.add_sub_cancel_left]; exact hg

theorem map_zip_fst {α β} {g : α × β → α} {l₁ : List α} {l₂ : List β} (hl : l₁.length ≤ l₂.length)
    (h : ∀ x ∈ l₁.zip l₂, g x = x.1) : (l₁.zip l₂).map g = l₁ := by
  rw [List.map_congr_left (g := Prod.fst) h, List.map_fst_zip hl]

theorem all_one_replicate (nums : List Nat) (h : nums.any (· ≠ 1) = false) : nums = List.replicate nums.length 1 :=
  List.eq_replicate_of_mem fun b hb => by simpa using List.any_eq_false.mp h b hb

/-! the property ids a reader finds at the three places of a written SubStreamsInfo where one is due -/

def digId (s : SubStreams) : Nat := if s.digestsdefined.any id then 0x0A else 0x00

def sizeId (s : SubStreams) : Nat := if s.numUnpack.any (· > 1) then 0x09 else digId s

def numId (s : SubStreams) : Nat := if s.numUnpack.any (· ≠ 1) then 0x0D else sizeId s

theorem digId_ne (s : SubStreams) : digId s ≠ 0x09 := by unfold digId; split <;> decide

theorem sizeId_ne (s : SubStreams) : sizeId s ≠ 0x0D := by unfold sizeId digId; (repeat' split) <;> decide

/-- an optional property `[tag] ++ body` in front of the id `next` of what follows, regrouped as a reader meets
    it: the id due at this place, then the body with the next id behind it -/
theorem optSection_shift (c : Prop) [Decidable c] (tag next : Nat) (body rest : Bytes) :
    (if c then [tag] ++ body else []) ++ ([next] ++ rest) =
      [if c then tag else next] ++ ((if c then body ++ [next] else []) ++ rest) := by
  by_cases h : c
  · rw [if_pos h, if_pos h, if_pos h, List.append_assoc, List.append_assoc]
  · rw [if_neg h, if_neg h, if_neg h]; rfl

/-- `SubstreamsInfo.write`, when it does not raise: the id 0x08, then, as a reader meets them, the id
    of the first property present and each property followed by the id of the next -/
theorem writeSubStreams_some {s : SubStreams} {bytes : Bytes} (hw : writeSubStreams s = some bytes) (hne : s.numUnpack ≠ []) :
    ∃ l, (s.numUnpack.any (· > 1) = true → ∃ sizes, s.unpacksizes = some sizes ∧ subSizesToWrite s.numUnpack sizes = some l) ∧
      bytes = [0x08] ++ ([numId s] ++
        ((if s.numUnpack.any (· ≠ 1) then s.numUnpack.flatMap writeNumber ++ [sizeId s] else []) ++
         ((if s.numUnpack.any (· > 1) then l.flatMap writeNumber ++ [digId s] else []) ++
          (if s.digestsdefined.any id then writeBools s.digestsdefined true ++
              (((s.digests.zip s.digestsdefined).filter (·.2)).flatMap (fun c => leBytes c.1 4) ++ [0x00])
           else [])))) := by
  unfold writeSubStreams at hw
  rw [if_neg (by simpa using hne)] at hw
  dsimp only at hw
  split at hw
  · cases hw
  · rename_i p2 hp2
    -- the Size property: present iff some folder has several streams, and then `unpacksizes` must be there
    obtain ⟨l, hl, rfl⟩ : ∃ l, ((s.numUnpack.any (· > 1)) = true → ∃ sizes, s.unpacksizes = some sizes ∧
        subSizesToWrite s.numUnpack sizes = some l) ∧
        p2 = if s.numUnpack.any (· > 1) then [0x09] ++ l.flatMap writeNumber else [] := by
      split at hp2
      · split at hp2
        · cases hp2
        · cases hp2
        · obtain ⟨l, hl, rfl⟩ := Option.map_eq_some_iff.1 hp2
          exact ⟨l, fun _ => ⟨_, ‹_›, hl⟩, (if_pos ‹_›).symm⟩
      · cases hp2
        exact ⟨[], fun h => absurd h ‹_›, (if_neg ‹_›).symm⟩
    refine ⟨l, hl, ?_⟩
    rw [← Option.some.inj hw]
    simp only [List.append_assoc]
    -- from the last property to the first, each id moves behind the property before it
    rw [← List.append_nil [0], optSection_shift, optSection_shift, optSection_shift]
    simp only [List.append_assoc, List.append_nil]
    rfl

theorem writeSubStreams_head {ss : SubStreams} {b : Bytes} (h : writeSubStreams ss = some b) (hne : ss.numUnpack ≠ []) :
    b = [0x08] ++ b.drop 1 := by
  obtain ⟨_, -, rfl⟩ := writeSubStreams_some h hne; rfl

/-- `StreamsInfo.write` of a record with all three sections: their bytes between 0x04 and END -/
theorem writeStreams_some {s : Streams} {p : PackInfo} {fs : List Folder} {ss : SubStreams} {bytes : Bytes}
    (hp : s.packinfo = some p) (hf : s.folders = some fs) (hs : s.substreams = some ss) (hw : writeStreams s = some bytes) :
    ∃ a c, writePackInfo p = some a ∧ writeSubStreams ss = some c ∧ bytes = [0x04] ++ (a ++ (writeUnpackInfo fs ++ (c ++ [0x00]))) := by
  unfold writeStreams at hw
  rw [hp, hf, hs] at hw
  cases ha : writePackInfo p with
  | none => simp [ha] at hw
  | some a =>
    cases hc : writeSubStreams ss with
    | none => simp [ha, hc] at hw
    | some c =>
      simp only [ha, hc, bind, Option.bind, pure, Option.some.injEq] at hw
      exact ⟨a, c, rfl, rfl, by simp [← hw]⟩

/-- `Header.write` in raw form of a header with streams and files: their bytes between 0x01 and END -/
theorem writeHeaderRaw_some {h : Header} {s : Streams} {fi : FilesInfo} {pos : Nat} {bytes : Bytes}
    (hs : h.mainStreams = some s) (hfi : h.filesInfo = some fi) (hw : writeHeaderRaw true h pos = some bytes) :
    ∃ ms, writeStreams s = some ms ∧ bytes = [0x01] ++ (ms ++ (writeFilesInfo true fi (pos + 1 + ms.length) ++ [0x00])) := by
  unfold writeHeaderRaw at hw
  rw [hs, hfi] at hw
  cases hm : writeStreams s with
  | none => simp [hm] at hw
  | some ms =>
    simp only [hm, bind, Option.bind, pure, Option.some.injEq] at hw
    exact ⟨ms, rfl, by simp [← hw]⟩

/-! ### folders of simple coders chained linearly

What `Folder.prepare_coderinfo` builds, for the archive's data and for the header stream alike: as
far as the format is concerned (`LinearFolder` adds what py7zr's own reader needs). -/

theorem find_range_first (k : Nat) (p : Nat → Bool) (m : Nat) (hm : m < k) (hlt : ∀ i, i < m → p i = false)
    (hp : p m = true) : (List.range k).find? p = some m :=
  List.find?_range_eq_some.mpr ⟨hp, List.mem_range.mpr hm, fun j hj => by rw [hlt j hj]; rfl⟩

/-- the bind pairs `prepare_coderinfo` builds: coder i+1 reads what coder i produced -/
def linearPairs (k : Nat) : List (Nat × Nat) := (List.range (k - 1)).map (fun i => (i + 1, i))

theorem linearPairs_in (k i : Nat) : (linearPairs k).any (fun p => p.1 = i) = decide (1 ≤ i ∧ i < k) := by
  unfold linearPairs
  rw [Bool.eq_iff_iff]
  simp only [List.any_map, List.any_eq_true, List.mem_range, Function.comp, decide_eq_true_eq]
  constructor
  · rintro ⟨j, hj, h⟩; omega
  · intro h; exact ⟨i - 1, by omega, by omega⟩

theorem linearPairs_out (k o : Nat) : (linearPairs k).any (fun p => p.2 = o) = decide (o + 1 < k) := by
  unfold linearPairs
  rw [Bool.eq_iff_iff]
  simp only [List.any_map, List.any_eq_true, List.mem_range, Function.comp, decide_eq_true_eq]
  constructor
  · rintro ⟨j, hj, h⟩; omega
  · intro h; exact ⟨o, by omega, rfl⟩

theorem sum_map_one {α} (l : List α) (f : α → Nat) (h : ∀ x ∈ l, f x = 1) : (l.map f).sum = l.length := by
  rw [List.map_eq_replicate_iff.mpr h, List.sum_replicate_nat, Nat.mul_one]

structure ChainFolder (f : Folder) : Prop where
  ncoders : 0 < f.coders.length ∧ f.coders.length ≤ 32
  simple : ∀ c ∈ f.coders, c.numIn = 1 ∧ c.numOut = 1
  coders : ∀ c ∈ f.coders, WFCoder c
  pairs : f.bindpairs = linearPairs f.coders.length
  nsizes : f.unpacksizes.length = f.coders.length
  sizes : ∀ v ∈ f.unpacksizes, v < 2 ^ 64

namespace ChainFolder
variable {f : Folder} (cf : ChainFolder f)
include cf

theorem tot : totIn f = f.coders.length ∧ totOut f = f.coders.length :=
  ⟨sum_map_one _ _ (fun c hc => (cf.simple c hc).1), sum_map_one _ _ (fun c hc => (cf.simple c hc).2)⟩

theorem find_in : (List.range f.coders.length).find? (fun i => !(f.bindpairs.any (fun p => p.1 = i))) = some 0 := by
  apply find_range_first _ _ 0 cf.ncoders.1 (fun i hi => by omega)
  rw [cf.pairs, linearPairs_in]; simp

theorem wf : WFFolder f := by
  obtain ⟨hin, hout⟩ := cf.tot
  have hk := cf.ncoders
  have h1 : totIn f - (totOut f - 1) = 1 := by rw [hin, hout]; omega
  exact {
    ncoders := hk
    coders := cf.coders
    outPos := by rw [hout]; exact hk.1
    nbind := by rw [hout, cf.pairs]; simp [linearPairs]
    bindRange := by
      intro b hb'
      rw [cf.pairs] at hb'
      simp only [linearPairs, List.mem_map, List.mem_range] at hb'
      obtain ⟨i, hi, rfl⟩ := hb'
      rw [hin, hout]
      have hi1 : i + 1 < f.coders.length := by omega
      have h64 : ∀ x, x < f.coders.length → x < 2 ^ 64 := fun x hx =>
        Nat.lt_trans (Nat.lt_of_lt_of_le hx hk.2) (by decide)
      exact ⟨hi1, Nat.lt_of_succ_lt hi1, h64 _ hi1, h64 _ (Nat.lt_of_succ_lt hi1)⟩
    inGe := by rw [hin, hout]; omega
    packed := by
      simp only [h1, if_true]
      rw [hin, cf.find_in]; rfl
    nsizes := by rw [hout]; exact cf.nsizes
    sizes := cf.sizes }

theorem packedOf_eq : packedOf f = [0] := by
  obtain ⟨hin, hout⟩ := cf.tot
  have hk := cf.ncoders
  unfold packedOf
  have h1 : totIn f - (totOut f - 1) = 1 := by rw [hin, hout]; omega
  simp only [h1, if_true]
  rw [hin, cf.find_in]

end ChainFolder

/-! ### a value for each defined entry

The three writers lay their digests out in three ways; entry by entry each is `optBytes`. -/

/-- the bytes of one entry of an optional fixed-width vector: the value if it is defined, nothing otherwise -/
def optBytes (w : Nat) : Option Nat → Bytes
  | some v => leBytes v w
  | none => []

/-- `PackInfo.write` lays the digests out by index; entry by entry it is a value per defined one -/
theorem crcBytes_by_index : ∀ (defined : List Bool) (crcs : List Nat), crcs.length = defined.length →
    ((List.range defined.length).filter (fun i => defined.getD i false)).flatMap (fun i => leBytes (crcs.getD i 0) 4) =
      (defined.zip crcs).flatMap (fun x => optBytes 4 (if x.1 then some x.2 else none))
  | [], _, _ => rfl
  | d :: ds, c :: cs, h => by
    have ih := crcBytes_by_index ds cs (by simpa using h)
    rw [List.length_cons, List.range_succ_eq_map, List.filter_cons, List.filter_map, List.zip_cons_cons,
      List.flatMap_cons, ← ih]
    -- behind entry 0 the indices are the tail's, shifted by one
    have tail : (((List.range ds.length).filter ((fun i => (d :: ds).getD i false) ∘ Nat.succ)).map Nat.succ).flatMap
        (fun i => leBytes ((c :: cs).getD i 0) 4) =
        ((List.range ds.length).filter (fun i => ds.getD i false)).flatMap (fun i => leBytes (cs.getD i 0) 4) := by
      rw [List.flatMap_map]; rfl
    cases d
    · exact tail
    · exact congrArg (leBytes c 4 ++ ·) tail

theorem crcBytes_filterMap : ∀ (fs : List Folder),
    (fs.filterMap (·.crc)).flatMap (fun c => leBytes c 4) = fs.flatMap (fun f => optBytes 4 f.crc)
  | [] => rfl
  | f :: fs => by
    have ih := crcBytes_filterMap fs
    cases h : f.crc <;> simp [h, optBytes, ih]

/-- `SubstreamsInfo.write` lays the digests out by `zip … filter`; entry by entry it is a value per defined one -/
theorem crcBytes_zip_filter : ∀ (defined : List Bool) (crcs : List Nat),
    ((crcs.zip defined).filter (·.2)).flatMap (fun c => leBytes c.1 4) =
      (defined.zip crcs).flatMap (fun x => optBytes 4 (if x.1 then some x.2 else none))
  | [], _ => by simp
  | _ :: _, [] => by simp
  | d :: ds, c :: cs => by
    have ih := crcBytes_zip_filter ds cs
    cases d <;> simp [optBytes, ih]

end SevenZ
