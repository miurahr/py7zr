import SevenZ.Model.Number
import SevenZ.Model.BoolVec
import SevenZ.Model.Utf16
import SevenZ.Model.Header
import SevenZ.Lemmas.Number
import SevenZ.Lemmas.BoolVec
import SevenZ.Lemmas.Utf16
import SevenZ.Lemmas.Parses
import SevenZ.Lemmas.WrittenStreams
import SevenZ.Lemmas.WrittenFiles
import SevenZ.Lemmas.ImplProps
import SevenZ.Lemmas.ImplStreams
import SevenZ.Lemmas.ImplFiles
import SevenZ.Lemmas.ImplHeader
import SevenZ.Props.C17
import SevenZ.Model.Path
import SevenZ.Lemmas.Path
import SevenZ.Props.C16
import SevenZ.Model.Cli
import SevenZ.Props.C19
import SevenZ.Model.Decode
import SevenZ.Lemmas.Decode
import SevenZ.Props.C05
import SevenZ.Props.C20
import SevenZ.Model.Reader
import SevenZ.Props.C12
import SevenZ.Spec.Format
import SevenZ.Model.Assign
import SevenZ.Props.C06
import SevenZ.Props.C07
import SevenZ.Props.C08
import SevenZ.Model.Listing
import SevenZ.Props.C10
import SevenZ.Model.Aes
import SevenZ.Lemmas.Aes
import SevenZ.Props.C01
import SevenZ.Model.Crypto
import SevenZ.Props.C11
import SevenZ.Lemmas.Reader
import SevenZ.Model.Select
import SevenZ.Props.C09
import SevenZ.Model.Crc32
import SevenZ.Lemmas.Crc32
import SevenZ.Props.C04
import SevenZ.Model.Crash
import SevenZ.Model.CrashSession
import SevenZ.Lemmas.Crash
import SevenZ.Lemmas.Prs
import SevenZ.Lemmas.ParseBound
import SevenZ.Lemmas.Refine
import SevenZ.Lemmas.RefineFiles
import SevenZ.Props.C14
import SevenZ.Model.Writer
import SevenZ.Props.C15
import SevenZ.Model.FS
import SevenZ.Props.C03
import SevenZ.Model.Attr
import SevenZ.Lemmas.Attr
import SevenZ.Props.C02
import SevenZ.Model.Conc
import SevenZ.Lemmas.Shuffle
import SevenZ.Props.C13
import SevenZ.Model.Progress
import SevenZ.Props.C18
import SevenZ.Model.Stages
import SevenZ.Lemmas.SpecAssign
import SevenZ.Lemmas.SigHeader
import SevenZ.Lemmas.Assign
import SevenZ.Lemmas.SpecProps
import SevenZ.Lemmas.SpecFolder
import SevenZ.Lemmas.SpecSub
import SevenZ.Lemmas.SpecFiles
import SevenZ.Lemmas.SpecHeader
import SevenZ.Model.Compressor
import SevenZ.Lemmas.Compressor
import SevenZ.Model.WriteSession
import SevenZ.Spec.Archive
import SevenZ.Lemmas.Session
import SevenZ.Lemmas.ImplSession
import SevenZ.Model.AppendSession
import SevenZ.Lemmas.AppendStep
import SevenZ.Model.EncodedHeader
import SevenZ.Lemmas.SpecEncoded
